import ErgoVerif.Common
import ErgoVerif.ListFacts
