import ErgoVerif.Model.HsCache
import ErgoVerif.ListFacts
namespace ErgoVerif.HsCache

/-- an id the sender's encode cache hands out is one its table announces, and the receiver's decode cache, built from
    that table, takes it back to the value -/
theorem decode_encode {α : Type} [DecidableEq α] (tbl : List (Nat × α)) (hk : (tbl.map (·.1)).Nodup) (a : α) (k : Nat)
    (h : encodeCache tbl a = some k) : (k, a) ∈ tbl ∧ decodeCache tbl k = some a := by
  simp only [encodeCache, Option.map_eq_some_iff] at h
  obtain ⟨x, hx, rfl⟩ := h
  have hm := List.mem_of_find?_eq_some hx
  obtain rfl : x.2 = a := by simpa using List.find?_some hx
  exact ⟨hm, by simp only [decodeCache, find?_of_nodup_key (·.1) tbl hk x hm, Option.map_some]⟩

end ErgoVerif.HsCache
