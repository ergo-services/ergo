import ErgoVerif.ListFacts
import ErgoVerif.Model.TM
/-!
Lemmas about the TargetManager model: the index invariant, its preservation by all
state-changing operations, and what every operation does to the primary set
(the abstract specification: a set of (consumer, target, monitor) triples).  At the end, what the node makes of
the cleanups' reports: a notification can be read back into its key (`notifOf_key`, hence `notifOf_injective`;
`tnotifOf_inj`), the notifications of `routeNodeDown`, and the nodes that get a terminate frame (every other node with
a holder, none twice).
-/
namespace ErgoVerif.TM

/-- index invariant: the primary set has no duplicates, every index entry has no duplicates and
    holds exactly the keys of the primary set with that target -/
def Inv (s : St) : Prop :=
  s.rel.Nodup ∧ ∀ t, (s.idx t).Nodup ∧ ∀ k, k ∈ s.idx t ↔ (k ∈ s.rel ∧ k.target = t)

theorem Inv.nodup {s : St} (h : Inv s) : s.rel.Nodup := h.1
theorem Inv.idx_nodup {s : St} (h : Inv s) (t : Target) : (s.idx t).Nodup := (h.2 t).1
theorem Inv.mem_idx {s : St} (h : Inv s) {t : Target} {k : Key} : k ∈ s.idx t ↔ k ∈ s.rel ∧ k.target = t := (h.2 t).2 k

theorem inv_init : Inv init := by
  refine ⟨List.nodup_nil, fun t => ⟨List.nodup_nil, fun k => ?_⟩⟩
  simp [init]

theorem idxSet_inv {s : St} (h : Inv s) {rel' : List Key} (hnd : rel'.Nodup) (t : Target) (ks : List Key)
    (hks : ks.Nodup) (hmem : ∀ k, k ∈ ks ↔ k ∈ rel' ∧ k.target = t)
    (hoth : ∀ k, k.target ≠ t → (k ∈ rel' ↔ k ∈ s.rel)) : Inv ⟨rel', idxSet s.idx t ks⟩ := by
  refine ⟨hnd, fun t' => ?_⟩
  by_cases ht : t' = t
  · subst ht; simpa [idxSet] using ⟨hks, hmem⟩
  · simp only [idxSet, ht, ↓reduceIte]
    refine ⟨h.idx_nodup t', fun k => ?_⟩
    rw [h.mem_idx]
    exact and_congr_left fun b => (hoth k (b ▸ ht)).symm

theorem add_inv {s : St} (k : Key) (h : Inv s) : Inv (add s k).1 := by
  fun_cases add s k
  · exact h
  · next hk =>
    refine idxSet_inv h (List.nodup_cons.mpr ⟨hk, h.nodup⟩) _ _
      (List.nodup_cons.mpr ⟨fun hm => hk (h.mem_idx.mp hm).1, h.idx_nodup _⟩) (fun k' => ?_) (fun k' hk' => ?_)
    · rw [List.mem_cons, List.mem_cons, h.mem_idx, or_and_right]
      exact or_congr_left (iff_self_and.mpr (congrArg _))
    · simp only [List.mem_cons, or_iff_right_iff_imp]
      rintro rfl; exact absurd rfl hk'

theorem dropKey_inv {s : St} (k : Key) (h : Inv s) : Inv (dropKey s k) := by
  unfold dropKey idxErase
  refine idxSet_inv h (h.nodup.erase k) _ _ ((h.idx_nodup _).erase k) (fun k' => ?_) (fun k' hk' => ?_)
  · simp only [(h.idx_nodup _).mem_erase_iff, h.nodup.mem_erase_iff, h.mem_idx, and_assoc]
  · simp only [h.nodup.mem_erase_iff, and_iff_right_iff_imp]
    rintro _ rfl; exact hk' rfl

theorem remove_inv {s : St} (k : Key) (h : Inv s) : Inv (remove s k).1 := by
  fun_cases remove s k
  · exact dropKey_inv k h
  · exact h

theorem add_rel (s : St) (k : Key) :
    (add s k).1.rel = if k ∈ s.rel then s.rel else k :: s.rel := by
  unfold add; split <;> rfl

theorem add_err (s : St) (k : Key) : (add s k).2 = if k ∈ s.rel then some .exist else none := by
  unfold add; split <;> rfl

theorem remove_rel (s : St) (k : Key) : (remove s k).1.rel = s.rel.erase k := by
  fun_cases remove s k
  · rfl
  · next hk => exact (List.erase_of_not_mem hk).symm

theorem remove_err (s : St) (k : Key) : (remove s k).2 = if k ∈ s.rel then none else some .unknown := by
  unfold remove; split <;> rfl

theorem foldl_dropKey_rel (ks : List Key) (s : St) : (ks.foldl dropKey s).rel = ks.foldl List.erase s.rel :=
  (List.foldl_hom St.rel fun _ _ => rfl).symm

theorem foldl_dropKey_inv (ks : List Key) (s : St) (h : Inv s) : Inv (ks.foldl dropKey s) :=
  List.foldlRecOn (motive := Inv) ks dropKey h fun _ h k _ => dropKey_inv k h

theorem dropSelected_rel {s : St} (h : Inv s) {p q : Key → Bool} (hq : ∀ k, q k = !p k) :
    ((s.rel.filter p).foldl dropKey s).rel = s.rel.filter q := by
  rw [foldl_dropKey_rel, foldl_erase_eq_filter _ _ h.nodup]
  apply List.filter_congr
  intro k hk
  simp [List.mem_filter, hk, hq]

/-! What the three cleanups report is a `rfl`: `(cleanupConsumer s c).2` and `(cleanupNode s n).2` are filters of
`s.rel` as written, `(cleanupTarget s t).2` is `s.idx t`, which `Inv` describes. -/

theorem cleanupConsumer_rel {s : St} (h : Inv s) (c : Pid) :
    (cleanupConsumer s c).1.rel = s.rel.filter (fun k => !decide (k.consumer = c)) :=
  dropSelected_rel h fun _ => rfl

theorem cleanupConsumer_inv {s : St} (h : Inv s) (c : Pid) : Inv (cleanupConsumer s c).1 :=
  foldl_dropKey_inv _ _ h

theorem cleanupNode_rel {s : St} (h : Inv s) (n : Node) :
    (cleanupNode s n).1.rel = s.rel.filter (fun k => !consumerOn n k && !targetOn n k) :=
  dropSelected_rel h fun _ => (Bool.not_or _ _).symm

theorem cleanupNode_inv {s : St} (h : Inv s) (n : Node) : Inv (cleanupNode s n).1 :=
  foldl_dropKey_inv _ _ h

/-- `CleanupTarget` reads the index only -/
theorem cleanupTarget_rel {s : St} (h : Inv s) (t : Target) :
    (cleanupTarget s t).1.rel = s.rel.filter (fun k => !decide (k.target = t)) := by
  show (s.idx t).foldl List.erase s.rel = _
  rw [foldl_erase_eq_filter _ _ h.nodup]
  apply List.filter_congr
  intro k hk
  simp [h.mem_idx, hk]

theorem cleanupTarget_inv {s : St} (h : Inv s) (t : Target) : Inv (cleanupTarget s t).1 := by
  show Inv ⟨(cleanupTarget s t).1.rel, idxSet s.idx t []⟩
  rw [cleanupTarget_rel h]
  refine idxSet_inv h (h.nodup.filter _) t [] List.nodup_nil (fun k => ?_) (fun k hk => ?_)
  · simp [List.mem_filter]
  · simp [List.mem_filter, hk]

theorem consumersFor_spec {s : St} (h : Inv s) (t : Target) (c : Pid) :
    c ∈ consumersFor s t ↔ ∃ m, (⟨c, t, m⟩ : Key) ∈ s.rel := by
  unfold consumersFor
  simp only [List.mem_map, h.mem_idx]
  constructor
  · rintro ⟨⟨c', t', m⟩, ⟨hk, ht⟩, rfl⟩
    simp only at ht; subst ht; exact ⟨m, hk⟩
  · rintro ⟨m, hk⟩; exact ⟨⟨c, t, m⟩, ⟨hk, rfl⟩, rfl⟩

theorem step_inv {s : St} (h : Inv s) (op : Op) : Inv (step s op).1 := by
  cases op <;> simp only [step]
  -- the order of `Op`: add, remove, has for links, the same for monitors, the three cleanups, the two queries
  · exact add_inv _ h
  · exact remove_inv _ h
  · exact h
  · exact add_inv _ h
  · exact remove_inv _ h
  · exact h
  · exact cleanupConsumer_inv h _
  · exact cleanupTarget_inv h _
  · exact cleanupNode_inv h _
  · exact h
  · exact h

theorem run_inv (ops : List Op) {s : St} (h : Inv s) : Inv (run s ops) := by
  fun_induction run s ops
  · exact h
  · next ih => exact ih (step_inv h _)

/-! ### refinement: the abstract specification is the relation SET alone

`specStep` says what every operation does to the set of (consumer, target, monitor) triples and never
mentions the index; `step_refines` shows the implementation model (which maintains and, in
`CleanupTarget` / `GetConsumersForTarget`, *reads* the index) agrees with it in every state that satisfies
the invariant — hence, by `run_inv`, in every reachable state. -/

def specStep (rel : List Key) : Op → List Key
  | .addLink c t => if (⟨c, t, false⟩ : Key) ∈ rel then rel else ⟨c, t, false⟩ :: rel
  | .addMonitor c t => if (⟨c, t, true⟩ : Key) ∈ rel then rel else ⟨c, t, true⟩ :: rel
  | .removeLink c t => rel.erase ⟨c, t, false⟩
  | .removeMonitor c t => rel.erase ⟨c, t, true⟩
  | .cleanupConsumer c => rel.filter (fun k => !decide (k.consumer = c))
  | .cleanupTarget t => rel.filter (fun k => !decide (k.target = t))
  | .cleanupNode n => rel.filter (fun k => !consumerOn n k && !targetOn n k)
  | .hasLink _ _ | .hasMonitor _ _ | .targetsFor _ | .consumersFor _ => rel

theorem step_refines {s : St} (h : Inv s) (op : Op) : (step s op).1.rel = specStep s.rel op := by
  cases op <;> simp only [step, specStep]
  -- the order of `Op`; `has…` and the queries are closed already
  · exact add_rel _ _
  · exact remove_rel _ _
  · exact add_rel _ _
  · exact remove_rel _ _
  · exact cleanupConsumer_rel h _
  · exact cleanupTarget_rel h _
  · exact cleanupNode_rel h _

/-- what the answers are, in terms of the set alone -/
theorem step_out_spec {s : St} (h : Inv s) (op : Op) :
    match op, (step s op).2 with
    | .addLink c t, .err e => e = if (⟨c, t, false⟩ : Key) ∈ s.rel then some .exist else none
    | .addMonitor c t, .err e => e = if (⟨c, t, true⟩ : Key) ∈ s.rel then some .exist else none
    | .removeLink c t, .err e => e = if (⟨c, t, false⟩ : Key) ∈ s.rel then none else some .unknown
    | .removeMonitor c t, .err e => e = if (⟨c, t, true⟩ : Key) ∈ s.rel then none else some .unknown
    | .hasLink c t, .bool b => b = decide ((⟨c, t, false⟩ : Key) ∈ s.rel)
    | .hasMonitor c t, .bool b => b = decide ((⟨c, t, true⟩ : Key) ∈ s.rel)
    | .cleanupConsumer c, .keys ks => ks = s.rel.filter (fun k => decide (k.consumer = c))
    | .targetsFor c, .keys ks => ks = s.rel.filter (fun k => decide (k.consumer = c))
    | .cleanupTarget t, .keys ks => ks.Nodup ∧ ∀ k, k ∈ ks ↔ k ∈ s.rel ∧ k.target = t
    | .cleanupNode n, .keys ks => ks = s.rel.filter (fun k => !consumerOn n k && targetOn n k)
    | .consumersFor t, .pids ps => ∀ c, c ∈ ps ↔ ∃ m, (⟨c, t, m⟩ : Key) ∈ s.rel
    | _, _ => True := by
  cases op <;> simp only [step]
  -- the order of `Op` (see `step_inv`), not that of the `match`
  · exact add_err _ _
  · exact remove_err _ _
  · rfl
  · exact add_err _ _
  · exact remove_err _ _
  · rfl
  · rfl
  · exact h.2 _
  · rfl
  · rfl
  · exact fun c => consumersFor_spec h _ c

/-- a terminated target is reported to each of its holders exactly once, per relation kind -/
theorem cleanupTarget_count {s : St} (h : Inv s) (t : Target) (k : Key) :
    (cleanupTarget s t).2.count k = if k ∈ s.rel ∧ k.target = t then 1 else 0 :=
  (h.idx_nodup t).count.trans (ite_congr (propext h.mem_idx) (fun _ => rfl) (fun _ => rfl))

theorem cleanupTarget_gone {s : St} (h : Inv s) (t : Target) (k : Key) (hk : k ∈ (cleanupTarget s t).1.rel) :
    k.target ≠ t := by
  rw [cleanupTarget_rel h t] at hk
  simpa using (List.mem_filter.mp hk).2

theorem cleanupConsumer_gone {s : St} (h : Inv s) (c : Pid) (k : Key) (hk : k ∈ (cleanupConsumer s c).1.rel) :
    k.consumer ≠ c := by
  rw [cleanupConsumer_rel h c] at hk
  simpa using (List.mem_filter.mp hk).2

theorem notifOf_key (k : Key) : (⟨(notifOf k).to, (notifOf k).target, decide ((notifOf k).kind = .down)⟩ : Key) = k := by
  obtain ⟨c, t, m⟩ := k
  cases m <;> rfl

theorem notifOf_injective (a b : Key) (h : notifOf a = notifOf b) : a = b := by
  rw [← notifOf_key a, h, notifOf_key]

/-- a termination notice does not repeat the key's own target, so it determines the key among those on one target -/
theorem tnotifOf_inj (t : Target) (reason : Nat) {a b : Key} (ht : a.target = b.target)
    (h : tnotifOf t reason a = tnotifOf t reason b) : a = b := by
  simp only [tnotifOf, TNotif.mk.injEq] at h
  exact notifOf_injective a b (by simp [notifOf, h.1, h.2.1, ht])

theorem onNode_known {t : Target} {n : Node} (h : t.onNode n = true) : t.known = true := by
  cases t <;> simp_all [Target.onNode, Target.known]

theorem routeNodeDown_notifs {s : St} (n : Node) :
    (routeNodeDown s n).2 = (s.rel.filter (fun k => !consumerOn n k && targetOn n k)).map notifOf := by
  unfold routeNodeDown cleanupNode
  simp only [List.filter_filter]
  congr 1
  apply List.filter_congr
  intro k _
  by_cases h : targetOn n k = true
  · simp [h, onNode_known (by simpa [targetOn] using h)]
  · simp [h]

theorem terminateFrames_complete {s : St} (h : Inv s) (self : Node) (t : Target) (c : Pid) (m : Bool)
    (hk : (⟨c, t, m⟩ : Key) ∈ s.rel) (hn : c.node ≠ self) : c.node ∈ terminateFrames self s t := by
  unfold terminateFrames
  rw [List.mem_eraseDups]
  exact List.mem_map.mpr ⟨⟨c, t, m⟩, List.mem_filter.mpr ⟨h.mem_idx.mpr ⟨hk, rfl⟩, by simpa using hn⟩, rfl⟩

theorem terminateFrames_nodup (self : Node) (s : St) (t : Target) : (terminateFrames self s t).Nodup :=
  nodup_eraseDups _

end ErgoVerif.TM
