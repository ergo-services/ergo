import ErgoVerif.Model.Mpsc
/-!
The lock-free queue (`Model/Mpsc.lean`, lib/mpsc.go): an invariant of the swap order (`QInv`, read through `qinv_iff`),
and that what the consumer has received is a prefix of that order (`runQ_init`, `received_prefix`).
-/
namespace ErgoVerif.Mpsc

theorem setLinked_items (cs : List Cell) (i : Nat) : (setLinked cs i).map (·.item) = cs.map (·.item) := by
  fun_induction setLinked cs i <;> simp [*]

/-- invariants of the queue: the consumer never runs ahead, a producer's sequence numbers are below its counter and in
    order, a refused item is never in the queue -/
structure QInv (q : Q) : Prop where
  popped_le : q.popped ≤ q.cells.length
  seq_lt : ∀ c ∈ q.cells, c.item.seq < q.pushedBy c.item.producer
  refused_lt : ∀ it ∈ q.refused, it.seq < q.pushedBy it.producer
  sorted : ∀ i j (hi : i < q.cells.length) (hj : j < q.cells.length), i < j →
      q.cells[i].item.producer = q.cells[j].item.producer → q.cells[i].item.seq < q.cells[j].item.seq
  disjoint : ∀ c ∈ q.cells, c.item ∉ q.refused

theorem qinv_init (l : Option Nat) : QInv (Q.init l) := by
  constructor <;> simp [Q.init]

def Q.received (q : Q) : List Item := (q.cells.take q.popped).map (·.item)
/-- the total order fixed by the head swaps -/
def Q.order (q : Q) : List Item := q.cells.map (·.item)

def Ordered : List Item → Prop := List.Pairwise fun a b => a.producer = b.producer → a.seq < b.seq

/-- the invariant speaks of the swap order only, never of the `linked` flags: `link` cannot disturb it, and `swap`
    extends the list it is about by one item -/
theorem qinv_iff (q : Q) : QInv q ↔
    q.popped ≤ q.order.length ∧ (∀ it ∈ q.order, it.seq < q.pushedBy it.producer) ∧
    (∀ it ∈ q.refused, it.seq < q.pushedBy it.producer) ∧ Ordered q.order ∧ ∀ it ∈ q.order, it ∉ q.refused := by
  simp only [Q.order, Ordered, List.length_map, List.forall_mem_map, List.pairwise_map]
  rw [List.pairwise_iff_getElem]
  exact ⟨fun h => ⟨h.1, h.2, h.3, h.4, h.5⟩, fun h => ⟨h.1, h.2.1, h.2.2.1, h.2.2.2.1, h.2.2.2.2⟩⟩

/-- the producers' counters after one more push (accepted or refused) by `p` still bound what they bounded -/
theorem lt_bump {f : Nat → Nat} {p x n : Nat} (h : n < f x) : n < if x = p then f p + 1 else f x := by
  split
  · next e => subst e; omega
  · exact h

theorem received_eq (q : Q) : q.received = q.order.take q.popped := List.map_take

/-- one case analysis of `step` for both facts, each read off the swap order.  The step hypothesis is an arrow on
purpose: as a binder it would be in scope of `match got` and be generalised into that match. -/
theorem step_spec {q q' : Q} {o : Op} {got : Option Item} (h : QInv q) : step q o = some (q', got) →
    QInv q' ∧ q'.received = q.received ++ (match got with | some i => [i] | none => []) := by
  have h0 := (qinv_iff q).mp h
  have ⟨hp, hseq, href, hsort, hdis⟩ := h0
  simp only [qinv_iff, received_eq]
  fun_cases step q o <;> intro hs <;> cases hs
  case case2 p _ it =>                                  -- swap
    simp only [Q.order, List.map_append, List.map_cons, List.map_nil, List.length_append, List.forall_mem_append,
      List.mem_singleton, forall_eq, Ordered, List.pairwise_append, List.append_nil, it] at *
    -- the new item ⟨p, pushedBy p⟩: above every earlier item of `p`, below `p`'s new counter, never refused
    refine ⟨⟨by omega, ⟨fun it hit => lt_bump (hseq it hit), by simp⟩, fun it hit => lt_bump (href it hit),
      ⟨hsort, List.pairwise_singleton _ _, fun a ha e => e ▸ hseq a ha⟩, hdis, fun hm => ?_⟩, ?_⟩
    · exact Nat.lt_irrefl _ (href _ hm)
    · rw [List.take_append_of_le_length (by simpa using hp)]
  case case4 p _ it =>                                  -- refuse
    simp only [it]
    refine ⟨⟨hp, fun it hit => lt_bump (hseq it hit), fun it hit => ?_, hsort, fun it hit hm => ?_⟩,
      (List.append_nil _).symm⟩
    · rcases List.mem_cons.mp hit with rfl | hit
      · simp
      · exact lt_bump (href it hit)
    · rcases List.mem_cons.mp hm with rfl | hm
      · exact Nat.lt_irrefl _ (hseq _ hit)
      · exact hdis it hit hm
  case case5 i _ =>                                    -- link
    simp only [Q.order, setLinked_items]
    exact ⟨h0, (List.append_nil _).symm⟩
  case case7 c hc _ =>                                 -- pop, of a linked cell
    have hlt := (List.getElem?_eq_some_iff.mp hc).1
    refine ⟨⟨by simpa [Q.order] using Nat.succ_le_of_lt hlt, hseq, href, hsort, hdis⟩, ?_⟩
    simp only [Q.order, List.take_add_one, List.getElem?_map, hc]; rfl
  all_goals exact ⟨h0, (List.append_nil _).symm⟩   -- pop, nothing to take

theorem runQ_spec {ops : List Op} {q q' : Q} {got : List Item} (h : QInv q) : runQ q ops = some (q', got) →
    QInv q' ∧ q'.received = q.received ++ got := by
  fun_induction runQ q ops generalizing q' got <;> intro hr <;> cases hr
  · exact ⟨h, (List.append_nil _).symm⟩
  · next q o os q1 g1 hs q2 rest hr2 ih =>
    obtain ⟨h1, hrec1⟩ := step_spec h hs
    obtain ⟨h2, hrec2⟩ := ih h1 hr2
    exact ⟨h2, by rw [hrec2, hrec1, List.append_assoc]; cases g1 <;> rfl⟩

theorem runQ_init {limit : Option Nat} {ops : List Op} {q : Q} {got : List Item}
    (hr : runQ (Q.init limit) ops = some (q, got)) : QInv q ∧ got = q.received := by
  obtain ⟨hinv, hrec⟩ := runQ_spec (qinv_init limit) hr
  exact ⟨hinv, by rw [hrec]; simp [Q.received, Q.init]⟩

theorem QInv.not_refused {q : Q} (h : QInv q) : ∀ it ∈ q.order, it ∉ q.refused := ((qinv_iff q).mp h).2.2.2.2

theorem order_nodup {q : Q} (h : QInv q) : q.order.Nodup :=
  ((qinv_iff q).mp h).2.2.2.1.imp fun hab e => by subst e; exact Nat.lt_irrefl _ (hab rfl)

theorem received_prefix (q : Q) : q.received <+: q.order := received_eq q ▸ List.take_prefix ..

end ErgoVerif.Mpsc
