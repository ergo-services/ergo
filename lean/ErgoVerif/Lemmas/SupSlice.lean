import ErgoVerif.Lemmas.SupScan
import ErgoVerif.ListFacts
/-
Sets of pids (Go maps used as sets) and the spec slice of the state machines.  What the operations on the slice (`scan`,
`updName`, `List.set`) leave alone is said once for any projection `g` of a spec; `Runs` says which spec has which child.
-/
namespace ErgoVerif.Sup

theorem mem_sdel (p q : Nat) (l : List Nat) : p ∈ sdel q l ↔ p ∈ l ∧ p ≠ q := by
  simp [sdel]

theorem mem_sins (p q : Nat) (l : List Nat) : p ∈ sins q l ↔ p = q ∨ p ∈ l := by
  unfold sins
  split
  · exact ⟨Or.inr, fun h => h.elim (fun e => e ▸ ‹q ∈ l›) id⟩
  · exact List.mem_cons

theorem mem_foldl_sins (l w : List Nat) (p : Nat) :
    p ∈ l.foldl (fun w p => sins p w) w ↔ p ∈ w ∨ p ∈ l := by
  induction l generalizing w with
  | nil => simp
  | cons a t ih => rw [List.foldl_cons, ih, mem_sins, List.mem_cons, or_comm (a := p = a), or_assoc]

theorem mem_mkSet (p : Nat) (l : List Nat) : p ∈ mkSet l ↔ p ∈ l := by
  rw [mkSet, ← List.foldl_reverse, mem_foldl_sins]
  simp

theorem findName_eq_find (n : Nat) (l : List ChildSpec) : findName n l = l.find? (fun c => c.name == n) := by
  fun_induction findName n l
  · rfl
  case case2 h => rw [List.find?_cons_of_pos (by simpa using h)]
  case case3 h ih => rw [List.find?_cons_of_neg (by simpa using h), ih]

theorem findName_mem (n : Nat) (l : List ChildSpec) (c : ChildSpec) (h : findName n l = some c) : c ∈ l ∧ c.name = n := by
  rw [findName_eq_find] at h
  exact ⟨List.mem_of_find?_eq_some h, by simpa using List.find?_some h⟩

theorem findName_none_iff (n : Nat) (l : List ChildSpec) : findName n l = none ↔ ∀ c, c ∈ l → c.name ≠ n := by
  simp [findName_eq_find]

theorem findName_updName (n m : Nat) (f : ChildSpec → ChildSpec) (hf : ∀ c, (f c).name = c.name) (l : List ChildSpec) :
    (findName n (updName m f l)).isSome = (findName n l).isSome := by
  fun_induction updName m f l
  · rfl
  · simp only [findName, hf]; split <;> rfl
  case case3 ih =>
    simp only [findName]
    split
    · rfl
    · exact ih

theorem findName_updName_self {n : Nat} {l : List ChildSpec} {c : ChildSpec}
    (f : ChildSpec → ChildSpec) (hf : (f c).name = c.name) : findName n l = some c → findName n (updName n f l) = some (f c) := by
  fun_induction updName n f l <;> intro h
  · cases h
  case case2 a t hn => rw [findName, if_pos hn] at h; cases h; rw [findName, if_pos (hf.trans hn)]
  case case3 a t hn ih => rw [findName, if_neg hn] at h ⊢; exact ih h

theorem findName_append (n : Nat) (l l' : List ChildSpec) (h : (findName n l).isSome) : (findName n (l ++ l')).isSome := by
  rw [findName_eq_find] at h ⊢
  obtain ⟨c, hc⟩ := Option.isSome_iff_exists.mp h
  rw [List.find?_append, hc]; rfl

/-- the `idx` clause of `OFO.WF` and `ARFO.WF` -/
def Indexed (l : List ChildSpec) : Prop := ∀ (k : Nat) (c : ChildSpec), l[k]? = some c → c.i = k

theorem findName_at {n : Nat} {l : List ChildSpec} {c : ChildSpec} (h : findName n l = some c)
    (hidx : Indexed l) : l[c.i]? = some c := by
  obtain ⟨k, hk⟩ := List.mem_iff_getElem?.mp (findName_mem n l c h).1
  rw [hidx k c hk]; exact hk

theorem getElem_of_map_eq {β : Type} {f : ChildSpec → β} {l l' : List ChildSpec} (hs : l'.map f = l.map f) {k : Nat}
    {c : ChildSpec} (h : l[k]? = some c) : ∃ c', l'[k]? = some c' ∧ f c' = f c :=
  Option.map_eq_some_iff.mp (by rw [← List.getElem?_map, hs, List.getElem?_map, h]; rfl)

theorem scan_map {β : Type} (g : ChildSpec → β) (hg : ∀ c, g { c with pid := 0 } = g c) (name pid k : Nat)
    (l : List ChildSpec) : (scan name pid k l).spec.map g = l.map g := by
  rw [scan_spec_eq, List.map_map]
  exact List.map_congr_left fun c _ => by simp only [Function.comp]; split <;> simp [hg]

theorem scan_found_at {name pid : Nat} {l : List ChildSpec} {j : Nat} {c : ChildSpec}
    (h : (scan name pid 0 l).found = some (j, c)) :
    (scan name pid 0 l).spec[j]? = some c ∧ c.pid = 0 ∧ ∃ c0, l[j]? = some c0 ∧ c.i = c0.i := by
  obtain ⟨_, c0, hc0, hh, hsp⟩ := scan_found_some name pid 0 l j c h
  rw [scan_spec_eq, List.getElem?_map, show l[j]? = some c0 from hc0, hsp]
  exact ⟨by simp [hh], rfl, c0, rfl, rfl⟩

theorem scan_length (name pid : Nat) (l : List ChildSpec) : (scan name pid 0 l).spec.length = l.length := by
  rw [scan_spec_eq]; simp

theorem updName_map {β : Type} (g : ChildSpec → β) (n : Nat) (f : ChildSpec → ChildSpec) (hf : ∀ c, g (f c) = g c)
    (l : List ChildSpec) : (updName n f l).map g = l.map g := by
  fun_induction updName n f l
  · rfl
  · rw [List.map_cons, hf]; rfl
  case case3 ih => rw [List.map_cons, ih]; rfl

theorem updName_length (n : Nat) (f : ChildSpec → ChildSpec) (l : List ChildSpec) : (updName n f l).length = l.length := by
  simpa using congrArg List.length (updName_map (fun _ => ()) n f (fun _ => rfl) l)

theorem updName_getElem_some (n : Nat) (f : ChildSpec → ChildSpec) (hf : ∀ c, (f c).name = c.name ∧ (f c).i = c.i)
    (l : List ChildSpec) (k : Nat) (c : ChildSpec) (h : l[k]? = some c) :
    ∃ c', (updName n f l)[k]? = some c' ∧ c'.name = c.name ∧ c'.i = c.i := by
  obtain ⟨c', hc, e⟩ := getElem_of_map_eq
    (updName_map (fun c => (c.name, c.i)) n f (fun c => by rw [(hf c).1, (hf c).2]) l) h
  exact ⟨c', hc, congrArg Prod.fst e, congrArg Prod.snd e⟩

theorem updName_const {n : Nat} {l : List ChildSpec} {c : ChildSpec}
    (f : ChildSpec → ChildSpec) : findName n l = some c → updName n (fun _ => f c) l = updName n f l := by
  fun_induction updName n f l <;> intro h
  · rfl
  case case2 a t hn => rw [findName, if_pos hn] at h; cases h; rw [updName, if_pos hn]
  case case3 a t hn ih => rw [findName, if_neg hn] at h; rw [updName, if_neg hn, ih h]

theorem set_map {β : Type} (g : ChildSpec → β) {l : List ChildSpec} {i : Nat} {e sp : ChildSpec}
    (hi : l[i]? = some sp) (he : g e = g sp) : (l.set i e).map g = l.map g := by
  have ⟨hlt, hget⟩ := List.getElem?_eq_some_iff.mp hi
  rw [List.map_set, he, ← hget, ← List.getElem_map g (h := by simpa using hlt), List.set_getElem_self]

theorem idx_of_map {l l' : List ChildSpec} (hs : l'.map (·.i) = l.map (·.i)) (h : Indexed l) : Indexed l' := by
  intro k c' hc
  obtain ⟨c, hl, e⟩ := getElem_of_map_eq hs.symm hc
  rw [← e]; exact h k c hl

theorem idx_append_one {l : List ChildSpec} {c0 : ChildSpec} (h : Indexed l) (hn : c0.i = l.length) :
    Indexed (l ++ [c0]) := by
  intro k c hc
  rcases Nat.lt_trichotomy k l.length with hk | rfl | hk
  · rw [List.getElem?_append_left hk] at hc; exact h k c hc
  · rw [List.getElem?_concat_length] at hc; cases hc; exact hn
  · rw [List.getElem?_eq_none (by simp; omega)] at hc; cases hc

theorem scan_running_mem (name pid : Nat) (l : List ChildSpec) (p : Nat) :
    p ∈ (scan name pid 0 l).running ↔ ∃ c, c ∈ l ∧ hit name pid c = false ∧ c.pid ≠ 0 ∧ c.pid = p := by
  rw [scan_running_eq]
  simp only [List.mem_map, List.mem_filter, Bool.and_eq_true, Bool.not_eq_true', bne_iff_ne, ne_eq]
  constructor
  · rintro ⟨c, ⟨hc, hh, hp⟩, rfl⟩; exact ⟨c, hc, hh, hp, rfl⟩
  · rintro ⟨c, hc, hh, hp, rfl⟩; exact ⟨c, ⟨hc, hh, hp⟩, rfl⟩

theorem scan_drop_mem (name pid : Nat) (l : List ChildSpec) (k : Nat) (c' : ChildSpec) :
    c' ∈ (scan name pid 0 l).spec.drop k ↔
      ∃ c, c ∈ l.drop k ∧ c' = if hit name pid c then { c with pid := 0 } else c := by
  rw [scan_spec_eq, ← List.map_drop, List.mem_map]
  exact ⟨fun ⟨c, hc, e⟩ => ⟨c, hc, e.symm⟩, fun ⟨c, hc, e⟩ => ⟨c, hc, e.symm⟩⟩

theorem spec_unique {l : List ChildSpec} (h : (l.map (·.name)).Nodup) {c1 c2 : ChildSpec}
    (h1 : c1 ∈ l) (h2 : c2 ∈ l) (hn : c1.name = c2.name) : c1 = c2 := by
  have e := find?_of_nodup_key (·.name) l h c1 h1
  rw [hn, find?_of_nodup_key (·.name) l h c2 h2] at e
  exact (Option.some.inj e).symm

theorem mem_runningPids (l : List ChildSpec) (p : Nat) : p ∈ runningPids l ↔ (p ≠ 0 ∧ ∃ c, c ∈ l ∧ c.pid = p) := by
  simp only [runningPids, List.mem_map, List.mem_filter, ne_eq, decide_eq_true_eq]
  constructor
  · rintro ⟨c, ⟨hc, hp⟩, rfl⟩; exact ⟨hp, c, hc, rfl⟩
  · rintro ⟨hp, c, hc, rfl⟩; exact ⟨c, ⟨hc, hp⟩, rfl⟩

/-- the spec named `n` of the slice has the child `p` -/
def Runs (l : List ChildSpec) (n p : Nat) : Prop := p ≠ 0 ∧ ∃ c, c ∈ l ∧ c.name = n ∧ c.pid = p

theorem runs_iff (l : List ChildSpec) (n p : Nat) :
    Runs l n p ↔ p ≠ 0 ∧ (n, p) ∈ l.map (fun c => (c.name, c.pid)) := by
  simp only [Runs, List.mem_map, Prod.mk.injEq]

theorem runs_scan {l : List ChildSpec} {name pid : Nat} (hhit : ∀ c, c ∈ l → hit name pid c = true → c.pid = pid)
    (n p : Nat) : Runs (scan name pid 0 l).spec n p ↔ Runs l n p ∧ p ≠ pid := by
  have hnh : ∀ c : ChildSpec, hit name pid c = false → c.pid ≠ pid := fun c hh => (hit_false.mp hh).2
  unfold Runs
  simp only [scan_spec_eq, List.mem_map]
  constructor
  · rintro ⟨hp0, _, ⟨c, hc, rfl⟩, hn, hp⟩
    cases hh : hit name pid c with
    | true => rw [hh] at hp; exact absurd hp.symm hp0
    | false =>
      rw [hh] at hn hp
      exact ⟨⟨hp0, c, hc, hn, hp⟩, hp ▸ hnh c hh⟩
  · rintro ⟨⟨hp0, c, hc, hn, hp⟩, hne⟩
    have hh : hit name pid c = false := by
      cases hh : hit name pid c with
      | false => rfl
      | true => exact absurd (hhit c hc hh) (hp ▸ hne)
    exact ⟨hp0, _, ⟨c, hc, rfl⟩, by rw [hh]; exact hn, by rw [hh]; exact hp⟩

theorem runs_set {l : List ChildSpec} {i : Nat} {sp e : ChildSpec} (hi : l[i]? = some sp) (hsp0 : sp.pid = 0)
    (n p : Nat) : Runs (l.set i e) n p ↔ Runs l n p ∨ (p ≠ 0 ∧ e.name = n ∧ e.pid = p) := by
  unfold Runs
  constructor
  · rintro ⟨hp0, c, hc, hn, hp⟩
    rcases List.mem_or_eq_of_mem_set hc with hc | rfl
    · exact Or.inl ⟨hp0, c, hc, hn, hp⟩
    · exact Or.inr ⟨hp0, hn, hp⟩
  · rintro (⟨hp0, c, hc, hn, hp⟩ | ⟨hp0, hn, hp⟩)
    · -- a spec with a child is not `sp`, so it sits at another index, which `set` leaves alone
      obtain ⟨k, hk⟩ := List.mem_iff_getElem?.mp hc
      have hik : i ≠ k := by rintro rfl; rw [hi] at hk; cases hk; exact hp0 (hp ▸ hsp0)
      exact ⟨hp0, c, List.mem_iff_getElem?.mpr ⟨k, by rw [List.getElem?_set_ne hik]; exact hk⟩, hn, hp⟩
    · exact ⟨hp0, e, List.mem_set (List.getElem?_eq_some_iff.mp hi).1 e, hn, hp⟩

theorem runs_append_idle {l : List ChildSpec} {c0 : ChildSpec} (h0 : c0.pid = 0) (n p : Nat) :
    Runs (l ++ [c0]) n p ↔ Runs l n p := by
  simp only [runs_iff, List.map_append, List.mem_append, List.map_singleton, List.mem_singleton, Prod.mk.injEq, h0]
  exact ⟨fun ⟨hp, h⟩ => ⟨hp, h.resolve_right fun e => hp e.2⟩, fun ⟨hp, h⟩ => ⟨hp, .inl h⟩⟩

theorem runs_of_pairs {l l' : List ChildSpec}
    (hs : l'.map (fun c => (c.name, c.pid)) = l.map (fun c => (c.name, c.pid))) (n p : Nat) :
    Runs l' n p ↔ Runs l n p := by
  rw [runs_iff, runs_iff, hs]

theorem findStart_eq (frm k : Nat) (l : List ChildSpec) :
    findStart frm k l =
      ((l.zipIdx k).find? (fun x => decide (frm ≤ x.2) && x.1.pid == 0 && !x.1.disabled)).map (fun x => (x.2, x.1)) := by
  fun_induction findStart frm k l
  · rfl
  all_goals rw [List.zipIdx_cons, List.find?_cons]
  -- the search goes on past a spec before `frm` (2), with a child (3) or disabled (4), and ends at the first other one (5)
  case case2 h ih => rw [decide_eq_false (Nat.not_le.mpr h)]; exact ih
  case case3 h ih => rw [beq_false_of_ne h, Bool.and_false]; exact ih
  case case4 h ih => rw [h, Bool.not_true, Bool.and_false]; exact ih
  case case5 h1 h2 h3 =>
    rw [decide_eq_true (Nat.not_lt.mp h1), Decidable.not_not.mp h2, (Bool.not_eq_true _).mp h3]; rfl

/-- T4: the next child to start is the first enabled, not running spec at or after `frm` -/
theorem findStart_spec (frm : Nat) (l : List ChildSpec) (k j : Nat) (c : ChildSpec)
    (h : findStart frm k l = some (j, c)) :
    frm ≤ j ∧ k ≤ j ∧ l[j - k]? = some c ∧ c.pid = 0 ∧ c.disabled = false ∧
    ∀ i, k ≤ i → i < j → frm ≤ i → ∃ d, l[i - k]? = some d ∧ (d.pid ≠ 0 ∨ d.disabled = true) := by
  rw [findStart_eq] at h
  obtain ⟨x, hf, he⟩ := Option.map_eq_some_iff.mp h
  -- `x` is the first entry of the indexed slice that passes the test: it sits at some `n`, so `j = k + n`
  obtain ⟨hp, n, hn, rfl, hbefore⟩ := List.find?_eq_some_iff_getElem.mp hf
  rw [List.getElem_zipIdx] at he hp
  cases he
  simp only [Bool.and_eq_true, decide_eq_true_eq, beq_iff_eq, Bool.not_eq_true'] at hp
  rw [List.length_zipIdx] at hn
  refine ⟨hp.1.1, Nat.le_add_right .., by rw [Nat.add_sub_cancel_left]; exact List.getElem?_eq_getElem hn, hp.1.2, hp.2,
    fun i h1 h2 h3 => ?_⟩
  have hlt := Nat.sub_lt_left_of_lt_add h1 h2
  have := hbefore (i - k) hlt
  refine ⟨_, List.getElem?_eq_getElem (Nat.lt_trans hlt hn), ?_⟩
  rw [List.getElem_zipIdx] at this
  simp only [Bool.not_eq_true', Bool.and_eq_false_iff, decide_eq_false_iff_not, beq_eq_false_iff_ne,
    Bool.not_eq_false'] at this
  rcases this with (h | h) | h
  · exact absurd ((Nat.add_sub_of_le h1).symm ▸ h3) h
  · exact .inl h
  · exact .inr h

theorem mkSpecs_names (reg : Bool) (k : Nat) (l : List (Nat × Bool)) : (mkSpecs reg k l).map (·.name) = l.map (·.1) := by
  fun_induction mkSpecs reg k l
  · rfl
  case case2 ih => rw [List.map_cons, ih]; rfl

theorem mkSpecs_pid (reg : Bool) (k : Nat) (l : List (Nat × Bool)) (c : ChildSpec) : c ∈ mkSpecs reg k l → c.pid = 0 := by
  fun_induction mkSpecs reg k l <;> intro h
  · cases h
  case case2 ih =>
    rcases List.mem_cons.mp h with rfl | h
    · rfl
    · exact ih h

theorem mkSpecs_idx (l : List (Nat × Bool)) (k0 k : Nat) (c : ChildSpec) : (mkSpecs true k0 l)[k]? = some c → c.i = k0 + k := by
  fun_induction mkSpecs true k0 l generalizing k <;> intro h
  · cases h
  case case2 ih =>
    cases k with
    | zero => cases h; rfl
    | succ k' => rw [ih k' h]; omega

theorem mkSpecs_length (l : List (Nat × Bool)) (k0 : Nat) : (mkSpecs true k0 l).length = l.length := by
  simpa using congrArg List.length (mkSpecs_names true k0 l)

end ErgoVerif.Sup
