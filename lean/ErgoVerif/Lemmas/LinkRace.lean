import ErgoVerif.Model.LinkRace
import ErgoVerif.Lemmas.TM
/-!
The request-vs-node-down race of RouteLink*/RouteMonitor* with a remote target (`Model/LinkRace.lean`): with the
re-check after the insert, every recorded relation stays covered by a connection or by a request still in flight (`Inv`).
-/
namespace ErgoVerif.LinkRace
open ErgoVerif.TM

theorem run_eq_foldl (rc : Bool) (s : St) (es : List Ev) : run rc s es = es.foldl (step rc) s := by
  induction es generalizing s with
  | nil => rfl
  | cons e es ih => exact ih _

theorem run_append (rc : Bool) (s : St) (a b : List Ev) : run rc s (a ++ b) = run rc (run rc s a) b := by
  simp only [run_eq_foldl, List.foldl_append]

theorem onNode_unique (t : Target) (n m : Node) (h1 : t.onNode n = true) (h2 : t.onNode m = true) : n = m := by
  cases t <;> simp [Target.onNode] at h1 h2 <;> (rw [← h1, ← h2])

theorem lookup_cons_isSome (a : Node × Nat) {c : List (Node × Nat)} {m : Node} (h : (lookup m c).isSome = true) :
    (lookup m (a :: c)).isSome = true := by
  unfold lookup; split
  · rfl
  · exact h

theorem lookup_dropNode_ne (c : List (Node × Nat)) {n m : Node} (h : m ≠ n) :
    lookup m (dropNode n c) = lookup m c := by
  fun_induction dropNode n c
  · rfl
  · next a c ha ih => rw [ih, lookup, if_neg (fun e => h (e.symm.trans ha))]
  · next a c ha ih => rw [lookup, lookup, ih]

/-- the invariant of the race: the table is well formed; every request in flight points to the node of its target; and
every recorded relation on a remote target is either covered by a connection with that node or belongs to a request that
has not looked at the connection table again yet -/
structure Inv (s : St) : Prop where
  tm : TM.Inv s.tm
  reqNode : ∀ r ∈ s.pending ++ s.unchecked, r.k.target.onNode r.n = true
  covered : ∀ k ∈ s.tm.rel, ∀ n, k.target.onNode n = true → (s.connOf n).isSome = true ∨ ∃ r ∈ s.unchecked, r.k = k

theorem inv_init : Inv init := ⟨TM.inv_init, by simp [init], by simp [init, TM.init]⟩

/-- what `Inv.covered` asks for one relation, as a function of the two components it reads -/
def Cov (conn : List (Node × Nat)) (unch : List Req) (k : Key) : Prop :=
  ∀ n, k.target.onNode n = true → (lookup n conn).isSome = true ∨ ∃ r ∈ unch, r.k = k

theorem Cov.mono {conn conn' : List (Node × Nat)} {unch unch' : List Req} {k : Key} (h : Cov conn unch k)
    (hc : ∀ n, k.target.onNode n = true → (lookup n conn).isSome = true → (lookup n conn').isSome = true)
    (hu : ∀ r ∈ unch, r.k = k → r ∈ unch') : Cov conn' unch' k :=
  fun n hn => (h n hn).imp (hc n hn) fun ⟨r, hr, e⟩ => ⟨r, hu r hr e, e⟩

theorem step_inv {s : St} (h : Inv s) (e : Ev) : Inv (step true s e) := by
  have hcov : ∀ k ∈ s.tm.rel, Cov s.conn s.unchecked k := h.covered
  -- requests only move on: from `pending` to `unchecked`, and out
  have hreq {l : List Req} (hsub : l ⊆ s.pending ++ s.unchecked) : ∀ r ∈ l, r.k.target.onNode r.n = true :=
    fun r hr => h.reqNode r (hsub hr)
  have hreqU (r : Req) := hreq ((List.erase_sublist (a := r)).append_left s.pending).subset
  -- a request that has looked again was needed for its own relation only
  have keep (r : Req) : ∀ k ∈ s.tm.rel, k ≠ r.k → Cov s.conn (s.unchecked.erase r) k := fun k hk hne =>
    (hcov k hk).mono (fun _ _ hs => hs) fun r' hr' e =>
      (List.mem_erase_of_ne (fun e' : r' = r => hne (e ▸ e' ▸ rfl))).mpr hr'
  fun_cases step true s e
  case case2 n _ =>                                   -- up, a new connection
    exact ⟨h.tm, h.reqNode, fun k hk => (hcov k hk).mono (fun _ _ => lookup_cons_isSome _) (fun _ hr _ => hr)⟩
  case case4 n _ _ =>                                 -- down, of a connected node
    refine ⟨cleanupNode_inv h.tm n, h.reqNode, fun k hk => ?_⟩
    -- a surviving relation has its target on another node, and the connections with other nodes stay
    obtain ⟨hk0, hkf⟩ := List.mem_filter.mp (cleanupNode_rel h.tm n ▸ hk : k ∈ _)
    have hnot : k.target.onNode n = false := by simpa [targetOn] using ((Bool.and_eq_true _ _).mp hkf).2
    refine (hcov k hk0).mono (fun m hm hs => ?_) (fun _ hr _ => hr)
    have hmn : m ≠ n := fun e => by rw [e, hnot] at hm; cases hm
    exact (lookup_dropNode_ne s.conn hmn).symm ▸ hs
  case case6 k n g _ hcond =>                         -- answered, accepted
    refine ⟨h.tm, fun r hr => ?_, h.covered⟩
    rcases List.mem_cons.mp hr with rfl | hr
    · exact ((Bool.and_eq_true _ _).mp hcond).1
    · exact h.reqNode r hr
  case case8 r hin _ hex =>                           -- add, the relation exists already
    exact ⟨h.tm, hreq (List.erase_sublist.append_right _).subset, h.covered⟩
  case case9 r hin _ hex _ =>                         -- add, recorded: `r` itself covers the new relation
    refine ⟨add_inv r.k h.tm,
      hreq (List.perm_middle.trans ((List.perm_cons_erase hin).symm.append_right _)).subset, fun k hk => ?_⟩
    rw [add_rel, if_neg hex] at hk
    rcases List.mem_cons.mp hk with rfl | hk
    · exact fun _ _ => Or.inr ⟨r, List.mem_cons_self, rfl⟩
    · exact (hcov k hk).mono (fun _ _ hs => hs) (fun _ hr _ => List.mem_cons_of_mem _ hr)
  case case12 r hin _ hconn =>                        -- recheck, the connection is still there
    refine ⟨h.tm, hreqU r, fun k hk => ?_⟩
    by_cases hkr : k = r.k
    · -- `r.k` itself: its node is `r.n`, whose connection the re-check has just seen
      subst hkr
      intro m hm
      have : m = r.n := onNode_unique _ _ _ hm (h.reqNode r (List.mem_append_right _ hin))
      exact Or.inl (this ▸ hconn ▸ rfl)
    · exact keep r k hk hkr
  case case13 r hin _ hconn hex =>                    -- recheck, connection gone: the relation is removed again
    refine ⟨remove_inv r.k h.tm, hreqU r, fun k hk => ?_⟩
    rw [remove_rel] at hk
    exact keep r k (List.mem_of_mem_erase hk) fun e => h.tm.nodup.not_mem_erase (e ▸ hk)
  case case14 r hin _ hconn hnin =>                   -- recheck, connection gone and the drain has taken the relation
    exact ⟨h.tm, hreqU r, fun k hk => keep r k hk fun e => hnin (e ▸ hk)⟩
  case case10 => contradiction                        -- `rc = false`
  all_goals exact h                                   -- nothing happens

theorem run_inv (es : List Ev) {s : St} (h : Inv s) : Inv (run true s es) :=
  run_eq_foldl true s es ▸ List.foldlRecOn (motive := Inv) es _ h (fun _ h e _ => step_inv h e)

end ErgoVerif.LinkRace
