/-
IsRunAt on one mask and on a mask list: cronMask.IsRunAt by mask type, the special masks of day / weekday options
against the options' denotation, and the loop of cronMaskList.IsRunAt over AND masks and OR masks.
-/
import ErgoVerif.Lemmas.CronMask
namespace ErgoVerif.Cron
open ErgoVerif.Generated.Cron

theorem daysIn_le (y m : Nat) : daysIn y m ≤ 31 := by
  fun_cases daysIn y m <;> omega

theorem Kind.value_le (k : Kind) (c : Civil) (hc : c.wf) : k.value c ≤ k.hi := by
  obtain ⟨_, hmo, _, hd, hh, hmi, hw⟩ := hc
  cases k
  · exact hmi
  · exact hh
  · exact Nat.le_trans hd (daysIn_le _ _)
  · exact hmo
  · show (if c.wd = 0 then 7 else c.wd) ≤ 7
    split <;> omega

def Kind.isAnd : Kind → Bool
  | .minute | .hour | .month => true
  | _ => false

theorem mask_of_type (k : Kind) (cm : Nat) (h : maskType cm = k.mask) :
    (∀ c, maskIsRunAt cm c = cm.testBit (k.value c)) ∧ isAndType cm = k.isAnd ∧ maskKnown cm = true := by
  unfold maskIsRunAt isAndType maskKnown
  simp only [h, bitSet_eq_testBit]
  cases k <;> exact ⟨fun _ => rfl, rfl, rfl⟩

theorem mask_lastDM (cm : Nat) (h : maskType cm = cronMaskTypeLastDM) :
    (∀ c, maskIsRunAt cm c = (c.goLastDay == c.dom)) ∧ isAndType cm = false ∧ maskKnown cm = true := by
  unfold maskIsRunAt isAndType maskKnown
  simp only [h]
  exact ⟨fun _ => rfl, rfl, rfl⟩

theorem mask_lastDW (cm : Nat) (h : maskType cm = cronMaskTypeLastDW) :
    (∀ c, maskIsRunAt cm c = (if cm &&& 15 ≠ c.cronWd then false else c.month != c.goMonthPlus7)) ∧
      isAndType cm = false ∧ maskKnown cm = true := by
  unfold maskIsRunAt isAndType maskKnown
  simp only [h]
  exact ⟨fun _ => rfl, rfl, rfl⟩

theorem mask_ndw (cm : Nat) (h : maskType cm = cronMaskTypeNDW) :
    (∀ c, maskIsRunAt cm c = (if (cm >>> 8) &&& 255 ≠ c.cronWd then false else (c.dom - 1) / 7 + 1 == cm &&& 255)) ∧
      isAndType cm = false ∧ maskKnown cm = true := by
  unfold maskIsRunAt isAndType maskKnown
  simp only [h]
  exact ⟨fun _ => rfl, rfl, rfl⟩

theorem lastDW_decode : ∀ w, w < 8 →
    maskType (cronMaskTypeLastDW ||| w) = cronMaskTypeLastDW ∧ (cronMaskTypeLastDW ||| w) &&& 15 = w ∧
    cronMaskTypeLastDW ||| w < 2 ^ 64 := by decide

theorem ndw_decode : ∀ w, w < 8 → ∀ n, n < 8 →
    maskType (cronMaskTypeNDW ||| (w <<< 8) ||| n) = cronMaskTypeNDW ∧
    ((cronMaskTypeNDW ||| (w <<< 8) ||| n) >>> 8) &&& 255 = w ∧
    (cronMaskTypeNDW ||| (w <<< 8) ||| n) &&& 255 = n ∧
    cronMaskTypeNDW ||| (w <<< 8) ||| n < 2 ^ 64 := by decide

theorem monthPlus7_ne (c : Civil) : (c.month != c.goMonthPlus7) = decide (c.dom + 7 > c.dim) := by
  unfold Civil.goMonthPlus7
  by_cases h : c.dom + 7 > c.dim
  · simp only [h, if_true, decide_true]
    split <;> simp <;> omega
  · simp [h]

/-- the weekday test in front of the two weekday masks, as the conjunct it is in `Item.denote` -/
theorem wd_guard (a b : Nat) (x : Bool) : (if a ≠ b then false else x) = (decide (b = a) && x) := by
  by_cases h : b = a
  · simp [h]
  · simp [h, Ne.symm h]

theorem special_denote (k : Kind) (it : Item) (hv : it.valid k = true) (m : Nat)
    (hm : it.specialMask = some m) :
    (∀ c, maskIsRunAt m c = it.denote k c) ∧ isAndType m = false ∧ maskKnown m = true ∧ m < 2 ^ 64 := by
  cases it with
  | last =>
    cases hm
    obtain ⟨e, ha, hk⟩ := mask_lastDM cronMaskTypeLastDM (by decide)
    exact ⟨fun c => by rw [e, Bool.beq_eq_decide_eq]; exact decide_eq_decide.mpr eq_comm, ha, hk, by decide⟩
  | lastW w =>
    obtain ⟨_, h1, h2⟩ := Item.valid_iff.mp hv
    cases hm
    obtain ⟨ht, hw, hlt⟩ := lastDW_decode w (by omega)
    obtain ⟨e, ha, hk⟩ := mask_lastDW _ ht
    exact ⟨fun c => by rw [e, hw, monthPlus7_ne, wd_guard]; rfl, ha, hk, hlt⟩
  | nth w n =>
    obtain ⟨_, h1, h2, h3, h4⟩ := Item.valid_iff.mp hv
    cases hm
    obtain ⟨ht, hw, hn, hlt⟩ := ndw_decode w (by omega) n (by omega)
    obtain ⟨e, ha, hk⟩ := mask_ndw _ ht
    exact ⟨fun c => by rw [e, hw, hn, wd_guard, Bool.beq_eq_decide_eq]; rfl, ha, hk, hlt⟩
  | _ => cases hm

theorem denote_numeric (k : Kind) (c : Civil) {it : Item} (hn : it.specialMask = none) :
    it.denote k c = it.numDenote k (k.value c) := by
  cases it <;> first | rfl | cases hn

theorem any_split (k : Kind) (items : List Item) (hv : ∀ it ∈ items, it.valid k = true) (c : Civil) :
    items.any (Item.denote k c) =
      (items.any (Item.numDenote k (k.value c)) || (items.filterMap Item.specialMask).any (maskIsRunAt · c)) := by
  induction items with
  | nil => simp
  | cons it rest ih =>
    simp only [List.any_cons]
    rw [ih (fun i hi => hv i (List.mem_cons_of_mem _ hi))]
    cases h : it.specialMask with
    | none => simp [h, denote_numeric k c h, Bool.or_assoc]
    | some m =>
      have hn : it.numDenote k (k.value c) = false := by cases it <;> first | rfl | cases h
      rw [← (special_denote k it (hv it List.mem_cons_self) m h).1 c, hn]
      simp only [List.filterMap_cons, h, List.any_cons, Bool.false_or, Bool.or_left_comm]

theorem listLoop_and_cons (c : Civil) (m : Nat) (rest : List Nat) (run : Bool) (h : isAndType m = true) :
    listLoop c (m :: rest) run = (maskIsRunAt m c && listLoop c rest run) := by
  simp only [listLoop, h, if_true]
  cases maskIsRunAt m c <;> simp

theorem listLoop_or_cons (c : Civil) (m : Nat) (rest : List Nat) (run : Bool) (h : isAndType m = false) :
    listLoop c (m :: rest) run = (maskIsRunAt m c || listLoop c rest false) := by
  simp only [listLoop, h]
  cases maskIsRunAt m c <;> simp

/-- over OR masks the `run` the loop starts with matters only for the empty list -/
theorem listLoop_or (c : Civil) (l : List Nat) (run : Bool) (h : ∀ m ∈ l, isAndType m = false)
    (hr : l = [] → run = false) : listLoop c l run = l.any (maskIsRunAt · c) := by
  induction l generalizing run with
  | nil => simp [listLoop, hr rfl]
  | cons m rest ih =>
    rw [listLoop_or_cons c m rest _ (h m List.mem_cons_self),
      ih false (fun x hx => h x (List.mem_cons_of_mem _ hx)) fun _ => rfl, List.any_cons]

theorem listIsRunAt_or (c : Civil) (l : List Nat) (hne : l ≠ []) (h : ∀ m ∈ l, isAndType m = false) :
    listIsRunAt l c = l.any (maskIsRunAt · c) :=
  listLoop_or c l true h fun e => absurd e hne

end ErgoVerif.Cron
