import ErgoVerif.Model.Request
/-! The request/reply rendezvous of net/proto (`Model/Request.lean`): with a buffered channel the reply is never lost. -/
namespace ErgoVerif.Request

/-- invariant for a buffered channel: nothing is ever dropped, a reply that has arrived is buffered or was taken (or
    found the request over), and the entry in `c.requests` lives exactly as long as the requester waits -/
def Inv (s : St) : Prop :=
  s.dropped = false ∧
  (s.registered = false → s.req = .gotReply ∨ s.req = .timedOut) ∧
  (s.registered = true → s.req = .sent ∨ s.req = .waiting) ∧
  (s.arrived = true → s.req = .gotReply ∨ s.req = .timedOut ∨ s.buffered = true) ∧
  (s.buffered = true → s.arrived = true ∧ s.registered = true)

theorem inv_init : Inv init := by simp [Inv, init]

theorem step_inv (cap : Nat) (hc : cap > 0) (s s' : St) (l : Lbl) (h : Inv s) (hs : step cap s l = some s') : Inv s' := by
  obtain ⟨hd, hu, hr, ha, hb⟩ := h
  revert hs
  -- the enabled branches of `step`: enterWait; the four outcomes of routeMessage; recv; timeout
  fun_cases step cap s l <;> intro hs <;> cases hs <;> dsimp only [Inv]
  case case7 hna _ _ hcap =>
    -- `default:` — the only branch that drops. With `cap > 0` it is taken only when a value sits in the buffer
    -- already, and a buffered reply has arrived (`hb`): the guard `¬arrived` of this label excludes it.
    cases hbuf : s.buffered
    · exact absurd ⟨hc, by simp [hbuf]⟩ hcap
    · exact absurd (hb hbuf).1 hna
  all_goals simp_all

theorem run_inv (cap : Nat) (hc : cap > 0) (ls : List Lbl) {s s' : St} (h : Inv s) (hr : run cap s ls = some s') : Inv s' := by
  fun_induction run cap s ls
  · cases hr; exact h
  · cases hr
  · next s l ls s1 hs ih => exact ih (step_inv cap hc s s1 l h hs) hr

/-- with a buffered channel: the reply is never thrown away, and once it has arrived for a request
    that is still registered the requester cannot time out any more — it can only receive it -/
theorem buffered_ok (cap : Nat) (hc : cap > 0) (ls : List Lbl) (s : St) (hr : run cap init ls = some s) :
    s.dropped = false ∧ (s.arrived = true → s.registered = true → step cap s .timeout = none ∧ s.buffered = true) := by
  have h := run_inv cap hc ls inv_init hr
  obtain ⟨req, arrived, buffered, dropped, registered⟩ := s
  unfold Inv at h
  refine ⟨h.1, ?_⟩
  intro ha hg
  -- registered, the request is `sent` or `waiting`; arrived, that leaves `buffered`; and `timeout` wants the buffer empty
  cases req <;> cases buffered <;> simp_all [step]

end ErgoVerif.Request
