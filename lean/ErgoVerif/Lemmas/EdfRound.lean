import ErgoVerif.Lemmas.EdfNz
import ErgoVerif.Lemmas.EdfDesc
/-! The round trip at body level: `Good`, the side conditions on a value, and `dec ∘ encB = id` under them, by
    induction on the fuel with the three loops as lemmas over what is assumed of the elements. -/
namespace ErgoVerif.Edf
open ErgoVerif.Generated.Edt

def lim32 : Nat := 4294967296

mutual
/-- side conditions under which the decoder gives back exactly the value: see `Props/C11.lean`.  `nz ∨ count = 0`:
    the decoder refuses a count larger than the bytes left (for an array: an empty packet), and zero-width elements
    leave none -/
def Good (o : Opts) : Ty → Val → Prop
  | .any, .any t v => DescOK o t ∧ (encTy o t).length < 65536 ∧ Good o t v
  | .slice t, .list vs => vs.length < lim32 ∧ (t.nz = true ∨ vs.length = 0) ∧ Goods o t vs
  | .array n t, .list vs => (t.nz = true ∨ n = 0) ∧ Goods o t vs
  | .map k v, .map ps =>
      ps.length < lim32 ∧ (k.nz = true ∨ v.nz = true ∨ ps.length = 0) ∧ Pairs.KeysOK .nil ps ∧ Goodp o k v ps
  | .named _ (.slice t), .list vs => vs.length < lim32 ∧ (t.nz = true ∨ vs.length = 0) ∧ Goods o t vs
  | .named _ (.array n t), .list vs => (t.nz = true ∨ n = 0) ∧ Goods o t vs
  | .named _ (.map k v), .map ps =>
      ps.length < lim32 ∧ (k.nz = true ∨ v.nz = true ∨ ps.length = 0) ∧ Pairs.KeysOK .nil ps ∧ Goodp o k v ps
  | .struct _ fs, .list vs => Goodf o fs vs
  | .named _ t, v => LeafGood o t v
  | t, v => LeafGood o t v
def Goods (o : Opts) : Ty → Vals → Prop
  | _, .nil => True
  | t, .cons v vs => Good o t v ∧ Goods o t vs
def Goodp (o : Opts) : Ty → Ty → Pairs → Prop
  | _, _, .nil => True
  | kt, vt, .cons k v ps => Good o kt k ∧ Good o vt v ∧ Goodp o kt vt ps
def Goodf (o : Opts) : Tys → Vals → Prop
  | .cons t ts, .cons v vs => Good o t v ∧ Goodf o ts vs
  | _, _ => True
end

theorem Good_leaf {o : Opts} {t t' : Ty} {c : Bool} {tag : UInt8} (h : t.IsLeaf c tag t') (v : Val) :
    Good o t v = LeafGood o t' v := by
  cases h with
  | plain h => fun_cases Good o t v <;> first | rfl | cases h
  | named nm h _ => cases t' <;> cases h <;> simp only [Good]

theorem Good_seq {o : Opts} {t e : Ty} {tag : UInt8} (h : t.IsSeq tag e) (vs : Vals) :
    Good o t (.list vs) ↔ vs.length < lim32 ∧ (e.nz = true ∨ vs.length = 0) ∧ Goods o e vs := by
  cases h <;> simp only [Good]

theorem Good_arr {o : Opts} {t e : Ty} {n : Nat} (h : t.IsArr n e) (vs : Vals) :
    Good o t (.list vs) ↔ (e.nz = true ∨ n = 0) ∧ Goods o e vs := by
  cases h <;> simp only [Good]

theorem Good_map {o : Opts} {t k v : Ty} {tag : UInt8} (h : t.IsMap tag k v) (ps : Pairs) :
    Good o t (.map ps) ↔
      ps.length < lim32 ∧ (k.nz = true ∨ v.nz = true ∨ ps.length = 0) ∧ Pairs.KeysOK .nil ps ∧ Goodp o k v ps := by
  cases h <;> simp only [Good]

/-- what the loop lemmas below assume of the elements -/
abbrev RoundAt (o : Opts) (f : Nat) : Prop :=
  ∀ (v : Val) (t : Ty) (bs r : Bytes), encB o t v = some bs → Good o t v → v.depth ≤ f → dec o f false t (bs ++ r) = .ok (v, r)

theorem decs_encs_of {o : Opts} {f : Nat} (ih : RoundAt o f) : (vs : Vals) → (t : Ty) → (bs r : Bytes) →
    encs o t vs = some bs → Goods o t vs → vs.depth ≤ f → iterV (dec o f false t) vs.length (bs ++ r) = .ok (vs, r)
  | .nil, t, bs, r, he, hg, hf => by cases he; rfl
  | .cons v vs, t, bs, r, he, hg, hf => by
    obtain ⟨a, b, ha, hb, rfl⟩ := encs_cons_ok he
    simp only [Vals.depth] at hf
    have h1 := ih v t a (b ++ r) ha hg.1 (by omega)
    have h2 := decs_encs_of ih vs t b r hb hg.2 (by omega)
    simp only [Vals.length, iterV, List.append_assoc, h1, h2]

theorem decf_encf_of {o : Opts} {f : Nat} (ih : RoundAt o f) : (vs : Vals) → (fs : Tys) → (bs r : Bytes) →
    encf o fs vs = some bs → Goodf o fs vs → vs.depth ≤ f → iterF (fun t b => dec o f false t b) fs (bs ++ r) = .ok (vs, r)
  | .nil, .nil, bs, r, he, hg, hf => by cases he; rfl
  | .nil, .cons _ _, _, _, he, _, _ => by cases he
  | .cons _ _, .nil, _, _, he, _, _ => by cases he
  | .cons v vs, .cons t ts, bs, r, he, hg, hf => by
    obtain ⟨a, b, ha, hb, rfl⟩ := encf_cons_ok he
    simp only [Vals.depth] at hf
    have h1 := ih v t a (b ++ r) ha hg.1 (by omega)
    have h2 := decf_encf_of ih vs ts b r hb hg.2 (by omega)
    simp only [iterF, List.append_assoc, h1, h2]

theorem decp_encp_of {o : Opts} {f : Nat} (ih : RoundAt o f) : (ps : Pairs) → (kt vt : Ty) → (bs r : Bytes) → (acc : Pairs) →
    encp o kt vt ps = some bs → Goodp o kt vt ps → ps.depth ≤ f → Pairs.KeysOK acc ps →
    iterP (dec o f false kt) (dec o f false vt) ps.length acc (bs ++ r) = .ok (acc.app ps, r)
  | .nil, kt, vt, bs, r, acc, he, hg, hf, hk => by
    cases he
    simp [Pairs.length, iterP, Pairs.app_nil]
  | .cons k v ps, kt, vt, bs, r, acc, he, hg, hf, hk => by
    obtain ⟨a, b, c, ha, hb, hc', rfl⟩ := encp_cons_ok he
    simp only [Pairs.depth] at hf
    obtain ⟨hk1, hk2, hk3⟩ := hk
    have h1 := ih k kt a (b ++ c ++ r) ha hg.1 (by omega)
    have h2 := ih v vt b (c ++ r) hb hg.2.1 (by omega)
    have h3 := decp_encp_of ih ps kt vt c r (acc.snoc k v) hc' hg.2.2 (by omega) hk3
    simp only [Pairs.length, iterP, List.append_assoc] at h1 h2 h3 ⊢
    simp only [h1, h2, hk2, ↓reduceIte, Pairs.insert_fresh acc k v hk1, h3, Pairs.snoc_app]

/-- the flag `getDecoder` passes on (`getDecoder_hdr`) changes nothing: it reaches only the decoders of unnamed slices,
    arrays and maps, which do not look at state.decodeType -/
theorem dec_flag (o : Opts) (fuel : Nat) (dt : Bool) (t : Ty) (bs : Bytes) :
    dec o fuel (if t.composite then dt else false) t bs = dec o fuel false t bs := by
  cases fuel <;> cases t <;> cases dt <;> rfl

/-- decodeAny behind a header the encoder wrote, whatever state.decodeType says -/
theorem dec_any_hdr (o : Opts) (hc : CachesConsistent o) {f : Nat} {t : Ty} {v : Val} {body r : Bytes} (dt : Bool)
    (hd : DescOK o t) (hl : (encTy o t).length < 65536) (hne : t ≠ .any) (hnn : ¬ (t = .error ∧ v = .nil))
    (h : dec o f false t (body ++ r) = .ok (v, r)) : dec o (f + 1) dt .any (hdr o t ++ (body ++ r)) = .ok (.any t v, r) := by
  simp only [dec, getDecoder_hdr o hc t hd hl dt (body ++ r), dec_flag, h, hne, hnn, ↓reduceIte]

theorem dec_encB (o : Opts) (hc : CachesConsistent o) : (fuel : Nat) → RoundAt o fuel
  | 0, v, _, _, _, _, _, hf => absurd hf (by have := v.depth_pos; omega)
  | f+1, v, t, bs, r, he, hg, hf => by
    have ih := dec_encB o hc f
    cases encB_ok he with
    | errNil => simp [dec_leaf (.plain (t := .error) rfl), checkTag, decLeaf, rd16, errNilId]
    | anyNil => rfl
    | anyVal _ _ hne hnn hb =>
      obtain ⟨hd, hl, hg⟩ := hg
      rw [List.append_assoc]
      exact dec_any_hdr o hc false hd hl hne hnn (ih _ _ _ r hb hg (by simp only [Val.depth] at hf; omega))
    | nilSeq ht | nilMap ht => cases ht <;> rfl
    | seq e vs body ht hb =>
      obtain ⟨hl, hz, hg⟩ := (Good_seq ht vs).1 hg
      have ih := decs_encs_of ih vs e body r hb hg (by simp only [Val.depth] at hf; omega)
      -- the decoder's guard `count ≤ bytes left` passes because every element takes at least one byte
      have : vs.length ≤ (body ++ r).length := by have := encs_nz o vs e body hb hz; simp; omega
      simp only [List.cons_append, List.append_assoc]
      rw [dec_seq ht, counted_be32 ht.tag_ne_nil _ hl this, ih]; rfl
    | arr e vs ht hb =>
      obtain ⟨hz, hg⟩ := (Good_arr ht vs).1 hg
      have ih := decs_encs_of ih vs e bs r hb hg (by simp only [Val.depth] at hf; omega)
      have : ¬ (bs ++ r = [] ∧ vs.length ≠ 0) := by
        rintro ⟨h1, h2⟩
        obtain ⟨rfl, -⟩ := List.append_eq_nil_iff.1 h1
        exact h2 (Nat.le_zero.1 (encs_nz o vs e [] hb hz))
      rw [dec_arr ht, if_neg this, ih]; rfl
    | map kt vt ps body ht hb =>
      obtain ⟨hl, hz, hk, hg⟩ := (Good_map ht ps).1 hg
      have ih := decp_encp_of ih ps kt vt body r .nil hb hg (by simp only [Val.depth] at hf; omega) hk
      have : ps.length ≤ (body ++ r).length := by have := encp_nz o ps kt vt body hb hz; simp; omega
      simp only [List.cons_append, List.append_assoc]
      rw [dec_mapOf ht, counted_be32 ht.tag_ne_nil _ hl this, ih]; rfl
    | struct hb =>
      have ih := decf_encf_of ih _ _ bs r hb hg (by simp only [Val.depth] at hf; omega)
      simp only [dec, ih]
    | marsh p hl =>
      simp only [limBinaryEnc] at hl
      simp [dec, List.append_assoc, rd32_be32 _ (show p.length < 4294967296 by omega)]
    | leaf hl hb =>
      rw [dec_leaf hl]
      exact decLeaf_encLeaf o hc _ _ _ _ hb (Good_leaf hl v ▸ hg)

theorem decs_encs (o : Opts) (hc : CachesConsistent o) : (vs : Vals) → (t : Ty) → (bs r : Bytes) → (fuel : Nat) →
    encs o t vs = some bs → Goods o t vs → vs.depth ≤ fuel →
    iterV (dec o fuel false t) vs.length (bs ++ r) = .ok (vs, r) :=
  fun vs t bs r fuel => decs_encs_of (dec_encB o hc fuel) vs t bs r

theorem decf_encf (o : Opts) (hc : CachesConsistent o) : (vs : Vals) → (fs : Tys) → (bs r : Bytes) → (fuel : Nat) →
    encf o fs vs = some bs → Goodf o fs vs → vs.depth ≤ fuel →
    iterF (fun t b => dec o fuel false t b) fs (bs ++ r) = .ok (vs, r) :=
  fun vs fs bs r fuel => decf_encf_of (dec_encB o hc fuel) vs fs bs r

theorem decp_encp (o : Opts) (hc : CachesConsistent o) : (ps : Pairs) → (kt vt : Ty) → (bs r : Bytes) → (fuel : Nat) → (acc : Pairs) →
    encp o kt vt ps = some bs → Goodp o kt vt ps → ps.depth ≤ fuel → Pairs.KeysOK acc ps →
    iterP (dec o fuel false kt) (dec o fuel false vt) ps.length acc (bs ++ r) = .ok (acc.app ps, r) :=
  fun ps kt vt bs r fuel => decp_encp_of (dec_encB o hc fuel) ps kt vt bs r
end ErgoVerif.Edf
