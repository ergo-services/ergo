import ErgoVerif.Lemmas.HsReader
/-! writer/reader round trip of the handshake framing -/
namespace ErgoVerif.HsReader
open ErgoVerif.Generated

def hdr6 (n : Nat) : Bytes := UInt8.ofNat Hs.handshakeMagic :: UInt8.ofNat Hs.handshakeVersion :: be32enc n

theorem frame_eq (p : Bytes) : frame p = hdr6 p.length ++ p := by simp [frame, hdr6]
theorem hdr6_length (n : Nat) : (hdr6 n).length = Hs.headerLen := by simp [hdr6, be32enc, Hs.headerLen]

theorem len4_be32enc {n : Nat} (hn : n ≤ Hs.maxLen) :
    len4 (UInt8.ofNat (n / 16777216 % 256)) (UInt8.ofNat (n / 65536 % 256)) (UInt8.ofNat (n / 256 % 256))
      (UInt8.ofNat (n % 256)) = n := by
  unfold Hs.maxLen at hn
  have h1 : n / 16777216 = 0 := Nat.div_eq_of_lt (by omega)
  have h2 : n / 65536 = 0 := Nat.div_eq_of_lt (by omega)
  have h3 : n / 256 < 256 := Nat.div_lt_of_lt_mul (by omega)
  rw [len4, h1, h2]
  simp only [UInt8.toNat_ofNat', Nat.zero_mod, Nat.zero_mul, Nat.zero_add, Nat.reducePow, Nat.mod_mod,
    Nat.mod_eq_of_lt h3]
  exact Nat.div_add_mod' n 256

theorem header_hdr6 (p rest : Bytes) (hp : p.length ≤ Hs.maxLen) :
    header (hdr6 p.length ++ rest) = if rest.length < p.length then .need (Hs.needBase + p.length) else .done rest := by
  simp only [hdr6, be32enc, List.cons_append, List.nil_append, header_cons6, len4_be32enc hp]
  rw [if_neg (by decide), if_neg (by decide), if_neg (Nat.not_lt.mpr hp)]

theorem prefix_split {p chunk tail : Bytes} (h : chunk ++ tail = frame p) (h6 : Hs.headerLen ≤ chunk.length) :
    ∃ rest, chunk = hdr6 p.length ++ rest ∧ rest ++ tail = p := by
  rw [frame_eq] at h
  obtain ⟨rest, rfl⟩ := List.prefix_of_prefix_length_le (List.prefix_append _ p) (h ▸ List.prefix_append chunk tail)
    (by rw [hdr6_length]; exact h6)
  exact ⟨rest, rfl, List.append_cancel_left (by rw [← List.append_assoc]; exact h)⟩

theorem next_frame {p : Bytes} (hp : p.length ≤ Hs.maxLen) {chunk tail : Bytes} {expect : Nat}
    (h : chunk ++ tail = frame p) (he : Hs.headerLen ≤ expect) (he' : expect ≤ Hs.headerLen + p.length) :
    (∀ r, next chunk expect = .stop r → r = .ok p) ∧
    (∀ e, next chunk expect = .read e → tail ≠ [] ∧ Hs.headerLen ≤ e ∧ e ≤ Hs.headerLen + p.length) := by
  have hlen : chunk.length + tail.length = Hs.headerLen + p.length := by
    rw [← hdr6_length p.length, ← List.length_append, ← List.length_append, h, frame_eq]
  unfold next
  by_cases hlt : chunk.length < expect
  · rw [if_pos hlt]
    exact ⟨nofun, fun e h => by cases h; exact ⟨fun ht => by rw [ht, List.length_nil] at hlen; omega, he, he'⟩⟩
  · obtain ⟨rest, rfl, hrest⟩ := prefix_split h (Nat.le_trans he (Nat.le_of_not_lt hlt))
    rw [if_neg hlt, header_hdr6 p rest hp]
    have := congrArg List.length hrest
    simp only [List.length_append] at this
    by_cases hr : rest.length < p.length
    · rw [if_pos hr]
      exact ⟨nofun, fun e h => by
        cases h; exact ⟨fun ht => by rw [ht, List.length_nil] at this; omega, Nat.le_add_right _ _, Nat.le_refl _⟩⟩
    · rw [if_neg hr]
      have ht : tail = [] := List.eq_nil_of_length_eq_zero (by omega)
      rw [ht, List.append_nil] at hrest
      exact ⟨fun r h => by cases h; rw [hrest], nofun⟩

theorem run_roundtrip {p : Bytes} (hp : p.length ≤ Hs.maxLen) {chunk : Bytes} {expect : Nat} {conn : List Bytes}
    {peak reads : Nat} (hsegs : ∀ r ∈ conn, r.length ≤ Hs.readBuf) (hall : chunk ++ conn.flatten = frame p)
    (he : Hs.headerLen ≤ expect) (he' : expect ≤ Hs.headerLen + p.length) :
    (run chunk expect conn peak reads).res = .ok p := by
  fun_induction run chunk expect conn peak reads with
  | case1 _ _ _ _ _ r hn => exact (next_frame hp hall he he').1 r hn
  | case2 _ _ _ _ e hn => exact absurd rfl ((next_frame hp hall he he').2 e hn).1
  | case3 _ _ _ _ e hn r rest ih =>
    have hr := hsegs r (List.mem_cons_self ..)
    have hn := (next_frame hp hall he he').2 e hn
    rw [List.take_of_length_le hr] at ih ⊢
    exact ih (fun x hx => hsegs x (List.mem_cons_of_mem _ hx)) (by simpa using hall) hn.2.1 hn.2.2

end ErgoVerif.HsReader
