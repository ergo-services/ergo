import ErgoVerif.Lemmas.SupLoop
import ErgoVerif.Lemmas.SupSlice
import ErgoVerif.Lemmas.SupStep
/-
One-for-one: well-formedness of the state machine is preserved by every operation, every `start` action it
produces can be carried out by `childStarted`, hence the closed system never panics and `handleAction`
always finishes (T8 for one-for-one, unconditionally: for every history from every well-formed configuration).
`SupLoopARFO` runs in parallel, lemma for lemma; there a start also needs `mode ≠ 2` (the stopping mode).
At the end: once `shutdown` is set it stays set and the recorded reason is final (`step_stable`).
-/
namespace ErgoVerif.Sup

structure OFO.WF (m : OFO) : Prop where
  idx : ∀ (k : Nat) (c : ChildSpec), m.spec[k]? = some c → c.i = k
  mode : m.mode = 0 ∨ m.mode = 1
  next : m.i = m.spec.length

/-- `childStarted` will accept this start action -/
def OFO.ValidStart (m : OFO) (a : Action) : Prop := ∃ c : ChildSpec, m.spec[a.spec.i]? = some c ∧ c.name = a.spec.name

def OFO.GoodRes (m : OFO) : Res → Prop := Res.Good fun a => a.act = .start → OFO.ValidStart m a

/-- what the closed system needs of the answer `r` to a method called in state `m`; the slice may grow by one spec at
most because the fuel was chosen before the call -/
def OFO.Answer (m : OFO) (r : OFO × Res) : Prop :=
  OFO.WF r.1 ∧ OFO.GoodRes r.1 r.2 ∧ r.1.spec.length ≤ m.spec.length + 1

theorem OFO.Answer.same {m : OFO} {res : Res} (h : OFO.WF m) (hg : OFO.GoodRes m res) : OFO.Answer m (m, res) :=
  ⟨h, hg, Nat.le_succ _⟩

theorem OFO.Answer.of_map {m : OFO} {r : OFO × Res} (h : OFO.WF m) (hm : r.1.mode = m.mode) (hi : r.1.i = m.i)
    (hs : r.1.spec.map (·.i) = m.spec.map (·.i)) (hg : OFO.GoodRes r.1 r.2) : OFO.Answer m r := by
  have hlen : r.1.spec.length = m.spec.length := by simpa using congrArg List.length hs
  exact ⟨⟨idx_of_map hs h.idx, hm ▸ h.mode, by rw [hi, h.next, hlen]⟩, hg, hlen ▸ Nat.le_succ _⟩

theorem OFO.WF.found_idx {m : OFO} (hwf : OFO.WF m) (n pid j : Nat) (sp : ChildSpec)
    (hf : (scan n pid 0 m.spec).found = some (j, sp)) : sp.i = j := by
  obtain ⟨_, _, c0, hc0, hi⟩ := scan_found_at hf
  rw [hi]; exact hwf.idx j c0 hc0

theorem OFO.ct_good (m : OFO) (name pid : Nat) (r : Reason) (now : Int) (h : OFO.WF m) :
    OFO.Answer m (m.childTerminated name pid r now) := by
  cases hsd : m.shutdown with
  | true =>
    rw [OFO.childTerminated_shut m name pid r now hsd]
    exact .of_map h rfl rfl rfl (by simp only [OFO.GoodRes, Res.Good]; split <;> simp)
  | false =>
    obtain ⟨h1, h2, h3, a, ha, hc, _⟩ := OFO.childTerminated_frame m name pid r now hsd
    refine .of_map h h1 h2 (by rw [h3]; exact scan_map _ (fun _ => rfl) ..) ?_
    rw [ha]
    intro hact
    -- a restart is asked for the spec the scan has found, which sits at its own index in the scanned slice
    obtain ⟨⟨j, c⟩, hf, hc⟩ := Option.map_eq_some_iff.mp (hc hact).symm
    simp only at hc
    exact ⟨c, by rw [h3, ← hc, h.found_idx _ _ _ _ hf]; exact (scan_found_at hf).1, by rw [hc]⟩

theorem OFO.childStarted_accepts (s : OFO) {cs sp : ChildSpec} (pid : Nat)
    (hsp : s.spec[cs.i]? = some sp) (hn : sp.name = cs.name) :
    ∃ md a, s.childStarted cs pid =
        ({ s with spec := s.spec.set cs.i { sp with args := cs.args, pid := pid }, mode := md }, .ok a) ∧
      (md = s.mode ∨ md = 0) ∧
      (a.act = .nothing ∨ a.act = .start ∧ cs.i < a.spec.i ∧
        ∃ c, (s.spec.set cs.i { sp with args := cs.args, pid := pid })[a.spec.i]? = some c ∧ c.name = a.spec.name ∧ c.pid = 0) := by
  -- the two panics (1, 2), not starting up (3), the last spec started (4), a further spec to start (5), none (6)
  fun_cases OFO.childStarted s cs pid
  case case1 h => exact nomatch hsp.symm.trans h
  all_goals obtain rfl : _ = sp := Option.some.inj ((‹s.spec[cs.i]? = some _›).symm.trans hsp)
  case case2 h => exact absurd hn.symm h
  case case4 => exact ⟨_, _, rfl, .inr rfl, .inl rfl⟩
  case case5 k c hfs =>
    have hfs' := findStart_spec (cs.i + 1) _ 0 k c hfs
    exact ⟨_, _, rfl, .inl rfl, .inr ⟨rfl, hfs'.1, c, hfs'.2.2.1, rfl, hfs'.2.2.2.1⟩⟩
  all_goals exact ⟨_, _, rfl, .inl rfl, .inl rfl⟩

theorem OFO.childStarted_fields (m : OFO) (cs : ChildSpec) (np : Nat) :
    ((m.childStarted cs np).1.shutdown, (m.childStarted cs np).1.shutdownReason) = (m.shutdown, m.shutdownReason) := by
  fun_cases OFO.childStarted m cs np <;> rfl

theorem OFO.childSpec_cases (m : OFO) (name : Nat) :
    (∃ e, m.childSpec name = (m, .err e)) ∨
    (∃ c, m.childSpec name = (m, .ok { act := .start, spec := c }) ∧ findName name m.spec = some c ∧ c.pid = 0 ∧
      m.shutdown = false) := by
  fun_cases OFO.childSpec m name
  case case4 hcond c hf _ hp => exact .inr ⟨c, rfl, hf, hp, by simpa using fun h => hcond (.inr h)⟩
  all_goals exact .inl ⟨_, rfl⟩

theorem OFO.childSpec_good (m : OFO) (name args : Nat) (h : OFO.WF m) :
    OFO.Answer m (withArgs args (m.childSpec name)) := by
  rcases OFO.childSpec_cases m name with ⟨e, he⟩ | ⟨c, hc, hf, _, _⟩
  · rw [he]; exact .same h nofun
  · rw [hc, withArgs_ok]
    exact .same h fun _ => ⟨c, findName_at hf h.idx, rfl⟩

theorem OFO.childAddSpec_good (m : OFO) (name : Nat) (sig : Bool) (h : OFO.WF m) :
    OFO.Answer m (m.childAddSpec name sig) := by
  fun_cases OFO.childAddSpec m name sig
  case case4 cs =>
    -- the new spec gets the next index, which is the length of the slice
    exact ⟨⟨idx_append_one h.idx h.next, h.mode, by simp [h.next]⟩, fun _ => ⟨_, by simp [cs, h.next], rfl⟩, by simp⟩
  all_goals exact .same h nofun

theorem OFO.childEnable_good (m : OFO) (name : Nat) (h : OFO.WF m) : OFO.Answer m (m.childEnable name) := by
  fun_cases OFO.childEnable m name
  case case3 => exact .same h (fun hx => by cases hx)
  case case4 c hf _ c' =>
    rw [updName_const (fun c => { c with disabled := false }) hf]
    refine .of_map h rfl rfl (by apply updName_map; exact fun _ => rfl) fun _ => ?_
    obtain ⟨c', hc', hn', _⟩ := updName_getElem_some name (fun c => { c with disabled := false }) (fun _ => ⟨rfl, rfl⟩)
      m.spec c.i c (findName_at hf h.idx)
    exact ⟨c', hc', hn'⟩
  all_goals exact .same h nofun

theorem OFO.childDisable_good (m : OFO) (name : Nat) (h : OFO.WF m) : OFO.Answer m (m.childDisable name) := by
  fun_cases OFO.childDisable m name
  case case1 => exact .same h nofun
  case case2 => exact .same h (fun hx => by cases hx)
  case case3 | case4 => exact .of_map h rfl rfl (by apply updName_map; exact fun _ => rfl) (fun hx => by cases hx)

structure OFO.Inv (c : Loop OFO) : Prop where
  wf : OFO.WF c.m
  sane : c.status ≠ .panicked ∧ c.status ≠ .stuck

theorem OFO.chain (c : Loop OFO) (a : Action) (h : OFO.WF c.m ∧ OFO.GoodRes c.m (.ok a)) (ha : a.act = .start) :
    ∃ a', (ofoMachine.childStarted c.m a.spec c.nextPid).2 = .ok a' ∧
      (OFO.WF (spawn ofoMachine c a).m ∧ OFO.GoodRes (spawn ofoMachine c a).m (.ok a')) ∧
      startsLeft (spawn ofoMachine c a).m.spec.length a' < startsLeft c.m.spec.length a := by
  obtain ⟨sp, hsp, hn⟩ := h.2 ha
  obtain ⟨md, a', hc, hmd, ha'⟩ := OFO.childStarted_accepts c.m c.nextPid hsp hn
  -- a further start is for a later spec of the slice, which `set` leaves with its indices and its length
  have hnext := fun hs : a'.act = .start => (ha'.resolve_left (by rw [hs]; simp)).2
  have hm : (spawn ofoMachine c a).m = _ := congrArg Prod.fst hc
  rw [hm]
  refine ⟨a', congrArg Prod.snd hc, ⟨⟨idx_of_map (set_map (·.i) hsp rfl) h.1.idx, ?_, by simp [h.1.next]⟩, fun hs => ?_⟩, ?_⟩
  · rcases hmd with rfl | rfl
    · exact h.1.mode
    · exact Or.inl rfl
  · obtain ⟨_, c, hc1, hc2, _⟩ := hnext hs
    exact ⟨c, hc1, hc2⟩
  · rw [List.length_set]
    exact startsLeft_lt ha (List.getElem?_eq_some_iff.mp hsp).1 fun hs => (hnext hs).1

/-- `+ 3` is the fuel `ofoStep` and `ofoBoot` give the loop (`Model/SupLoop`); `+ 2` is what the proof needs -/
theorem OFO.afterCall_inv (fuel : Nat) (fromApi : Bool) (bits : List Bool) (c : Loop OFO) (m : OFO) (r : OFO × Res)
    (hst : c.status = .running) (ha : OFO.Answer m r) (hfuel : m.spec.length + 3 ≤ fuel) :
    OFO.Inv (afterCall ofoMachine fuel fromApi bits c r) := by
  obtain ⟨hwf, hgood, hlen⟩ := ha
  obtain ⟨c', a', hj, hs, he⟩ := afterCall_ends ofoMachine _
    (fun m a => startsLeft m.spec.length a) OFO.chain fuel fromApi bits c hgood (fun _ h => ⟨hwf, h⟩)
    (fun _ => Nat.lt_of_le_of_lt (startsLeft_le ..) (by omega))
  obtain ⟨es, st, hfin, hsane⟩ := finish_sane fromApi c' a' (hs.trans hst)
  rw [he, hfin]
  exact ⟨hj.1, hsane⟩

theorem OFO.call_good {c c0 : Loop OFO} {l : Label} {api : Bool} {bits : List Bool} {r : OFO × Res}
    (hc : Call ofoMachine c l api bits c0 r) (h : OFO.WF c.m) : OFO.Answer c.m r := by
  cases hc with
  | deliver hr => exact OFO.ct_good _ _ _ _ _ h
  | foreign => exact OFO.ct_good _ _ _ _ _ h
  | startChild => exact OFO.childSpec_good _ _ _ h
  | addChild => exact OFO.childAddSpec_good _ _ _ h
  | enable => exact OFO.childEnable_good _ _ h
  | disable => exact OFO.childDisable_good _ _ h

/-- every step of the closed one-for-one system keeps the machine well-formed and never panics -/
theorem OFO.step_inv (c c' : Loop OFO) (l : Label) (h : OFO.Inv c) (hs : ofoStep c l = some c') : OFO.Inv c' := by
  obtain ⟨hst, ⟨pid, r, rfl, _, rfl⟩ | ⟨api, bits, c0, r, hc, rfl⟩⟩ := step_cases hs
  · exact ⟨h.wf, h.sane⟩
  · exact OFO.afterCall_inv _ api bits c0 c.m r (hc.status_eq.trans hst) (OFO.call_good hc h.wf) (Nat.le_refl _)

theorem OFO.init_cons {sp : SupSpec} {n : Nat} {sg : Bool} {t : List (Nat × Bool)} (h : sp.children = (n, sg) :: t) :
    OFO.init {} sp =
      ({ spec := mkSpecs true 0 sp.children, restart := sp.restart, i := sp.children.length, mode := 1,
         autoshutdown := !sp.disableAutoShutdown },
       .ok { act := .start, spec := { name := n, significant := sg, register := true, i := 0 } }) := by
  simp [OFO.init, h, mkSpecs]

theorem OFO.init_answer (sp : SupSpec) (hne : sp.children ≠ []) :
    OFO.Answer (OFO.init {} sp).1 (OFO.init {} sp) ∧ (OFO.init {} sp).1.spec.length = sp.children.length := by
  obtain ⟨⟨n, sg⟩, t, hch⟩ := List.exists_cons_of_ne_nil hne
  rw [OFO.init_cons hch]
  refine ⟨⟨⟨fun k c hc => by have := mkSpecs_idx _ 0 k c hc; omega, Or.inr rfl, (mkSpecs_length _ _).symm⟩,
    fun _ => ⟨_, ?_, rfl⟩, Nat.le_succ _⟩, mkSpecs_length _ _⟩
  show (mkSpecs true 0 sp.children)[0]? = _
  rw [hch]; rfl

theorem OFO.boot_inv (sp : SupSpec) (hne : sp.children ≠ []) : OFO.Inv (ofoBoot sp) := by
  have ⟨ha, hl⟩ := OFO.init_answer sp hne
  exact OFO.afterCall_inv _ false [] _ _ _ rfl ha (by rw [hl]; exact Nat.le_refl _)

theorem OFO.childSpec_shut (m : OFO) (name : Nat) (h : m.shutdown = true) : m.childSpec name = (m, .err .strategyActive) := by
  simp [OFO.childSpec, h]
theorem OFO.childAddSpec_shut (m : OFO) (name : Nat) (sig : Bool) (h : m.shutdown = true) :
    m.childAddSpec name sig = (m, .err .strategyActive) := by
  simp [OFO.childAddSpec, h]
theorem OFO.childEnable_shut (m : OFO) (name : Nat) (h : m.shutdown = true) : m.childEnable name = (m, .err .strategyActive) := by
  simp [OFO.childEnable, h]

theorem OFO.call_stable {c c0 : Loop OFO} {l : Label} {api : Bool} {bits : List Bool} {r : OFO × Res}
    (hc : Call ofoMachine c l api bits c0 r) (h : c.m.shutdown = true) :
    (r.1.shutdown, r.1.shutdownReason) = (c.m.shutdown, c.m.shutdownReason) := by
  cases hc with
  | deliver hr => simp only [ofoMachine, OFO.childTerminated_shut _ _ _ _ _ h]
  | foreign => simp only [ofoMachine, OFO.childTerminated_shut _ _ _ _ _ h]
  | startChild => simp only [ofoMachine, OFO.childSpec_shut _ _ h, withArgs]
  | addChild => simp only [ofoMachine, OFO.childAddSpec_shut _ _ _ h]
  | enable => simp only [ofoMachine, OFO.childEnable_shut _ _ h]
  | @disable name =>
    -- DisableChild is not refused; it touches the slice and the answer only
    show ((c.m.childDisable name).1.shutdown, (c.m.childDisable name).1.shutdownReason) = _
    fun_cases OFO.childDisable c.m name <;> rfl
theorem OFO.step_stable (c : Loop OFO) (l : Label) (c' : Loop OFO) (hs : ofoStep c l = some c') (h : c.m.shutdown = true) :
    c'.m.shutdown = true ∧ c'.m.shutdownReason = c.m.shutdownReason := by
  have := step_m ofoMachine (fun m => (m.shutdown, m.shutdownReason)) OFO.childStarted_fields hs
    (fun hc => OFO.call_stable hc h)
  exact ⟨(congrArg Prod.fst this).trans h, congrArg Prod.snd this⟩

end ErgoVerif.Sup
