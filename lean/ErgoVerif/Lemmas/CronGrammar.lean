/-
The text-level grammar of a spec, stated declaratively (`OptText`, `FieldText`, `SpecText`), and the proof
that the parser model accepts exactly it: parseSpec cs = some s ↔ SpecText cs s.
-/
import ErgoVerif.Lemmas.CronText
import ErgoVerif.Lemmas.CronValid
namespace ErgoVerif.Cron

-- `wL` and `w#n` carry their bounds because the field regexps bound these characters ([1-7], [1-5]); the bounds of
-- the numerals are checked at the value stage and live in `Item.valid`
inductive OptText : List Char → Item → Prop
  | num {d : List Char} {n : Nat} : Numeral d n → OptText d (.num n)
  | range {a b : List Char} {x y : Nat} : Numeral a x → Numeral b y → OptText (a ++ '-' :: b) (.range x y)
  | rangeStep {a b s : List Char} {x y z : Nat} : Numeral a x → Numeral b y → Numeral s z →
      OptText (a ++ '-' :: (b ++ '/' :: s)) (.rangeStep x y z)
  | starStep {d : List Char} {s : Nat} : Numeral d s → OptText ('*' :: '/' :: d) (.starStep s)
  | last : OptText ['L'] .last
  | lastW {w : Nat} : 1 ≤ w → w ≤ 7 → OptText [digitChar w, 'L'] (.lastW w)
  | nth {w n : Nat} : 1 ≤ w → w ≤ 7 → 1 ≤ n → n ≤ 5 → OptText [digitChar w, '#', digitChar n] (.nth w n)

/-- texts and options, position by position -/
inductive OptTexts : List (List Char) → List Item → Prop
  | nil : OptTexts [] []
  | cons {t : List Char} {i : Item} {ts : List (List Char)} {is : List Item} :
      OptText t i → OptTexts ts is → OptTexts (t :: ts) (i :: is)

/-- the texts of a field of kind k: `*`, or options of the grammar of k separated by commas -/
def FieldText (k : Kind) (cs : List Char) : Field → Prop
  | .star => cs = ['*']
  | .list items => items ≠ [] ∧ (∀ i ∈ items, i.valid k = true) ∧
      ∃ texts, cs = joinWith ',' texts ∧ OptTexts texts items

/-- the texts of a spec: five white-space separated fields (after macro expansion), each a text of its field -/
def SpecText (cs : List Char) (s : Spec) : Prop :=
  ∃ f0 f1 f2 f3 f4, fields (expandMacro cs) = [f0, f1, f2, f3, f4] ∧
    FieldText .minute f0 s.minute ∧ FieldText .hour f1 s.hour ∧ FieldText .day f2 s.day ∧
    FieldText .month f3 s.month ∧ FieldText .wday f4 s.wday

theorem shape_of_digit_start {a rest : List Char} (h : allDigits a = true) :
    shape (a ++ rest) = shapeTail (a ++ rest) := by
  cases a with
  | nil => simp [allDigits] at h
  | cons c r =>
    have hc := allDigits_mem h c List.mem_cons_self
    unfold shape
    simp [digit_ne hc '*' (by decide), digit_ne hc 'L' (by decide)]

theorem shape_num {d : List Char} (h : allDigits d = true) : shape d = some (.num d) := by
  have := shape_of_digit_start (rest := []) h
  rw [List.append_nil] at this
  rw [this]
  unfold shapeTail
  rw [splitOn_of_not_mem '-' _ (allDigits_not_mem h _ (by decide))]
  simp only
  rw [splitOn_of_not_mem '#' _ (allDigits_not_mem h _ (by decide))]
  simp only
  rw [splitOn_of_not_mem 'L' _ (allDigits_not_mem h _ (by decide))]
  simp [h]

theorem shape_range {a b : List Char} (ha : allDigits a = true) (hb : allDigits b = true) :
    shape (a ++ '-' :: b) = some (.range a b) := by
  rw [shape_of_digit_start ha]
  unfold shapeTail
  rw [splitOn_append_sep '-' _ _ (allDigits_not_mem ha _ (by decide)), splitOn_of_not_mem '-' _ (allDigits_not_mem hb _ (by decide))]
  simp only [ha, if_true]
  rw [splitOn_of_not_mem '/' _ (allDigits_not_mem hb _ (by decide))]
  simp [hb]

theorem shape_rangeStep {a b s : List Char} (ha : allDigits a = true) (hb : allDigits b = true) (hs : allDigits s = true) :
    shape (a ++ '-' :: (b ++ '/' :: s)) = some (.rangeStep a b s) := by
  rw [shape_of_digit_start ha]
  unfold shapeTail
  have hno : '-' ∉ b ++ '/' :: s := by
    simp only [List.mem_append, List.mem_cons, not_or]
    exact ⟨allDigits_not_mem hb _ (by decide), by decide, allDigits_not_mem hs _ (by decide)⟩
  rw [splitOn_append_sep '-' _ _ (allDigits_not_mem ha _ (by decide)), splitOn_of_not_mem '-' _ hno]
  simp only [ha, if_true]
  rw [splitOn_append_sep '/' _ _ (allDigits_not_mem hb _ (by decide)), splitOn_of_not_mem '/' _ (allDigits_not_mem hs _ (by decide))]
  simp [hb, hs]

theorem shape_starStep {d : List Char} (h : allDigits d = true) : shape ('*' :: '/' :: d) = some (.starStep d) := by
  unfold shape
  have h1 : ('*' :: '/' :: d) ≠ ['*'] := by simp
  simp [h1, h]

def ShapeText (cs : List Char) : Shape → Prop
  | .star => cs = ['*']
  | .L => cs = ['L']
  | .starStep d => cs = '*' :: '/' :: d ∧ allDigits d = true
  | .num d => cs = d ∧ allDigits d = true
  | .range a b => cs = a ++ '-' :: b ∧ allDigits a = true ∧ allDigits b = true
  | .rangeStep a b s => cs = a ++ '-' :: (b ++ '/' :: s) ∧ allDigits a = true ∧ allDigits b = true ∧ allDigits s = true
  | .wL w => cs = [w, 'L'] ∧ '1' ≤ w ∧ w ≤ '7'
  | .nth w n => cs = [w, '#', n] ∧ '1' ≤ w ∧ w ≤ '7' ∧ '1' ≤ n ∧ n ≤ '5'

/-- in an accepting branch the pieces `splitOn` returned are glued back into the text by `splitOn_one` / `splitOn_two` -/
theorem shapeTail_ok {cs : List Char} {sh : Shape} : shapeTail cs = some sh → ShapeText cs sh := by
  -- the accepting branches, in the order of `shapeTail`: range, rangeStep, nth, wL, num
  fun_cases shapeTail cs <;> intro h <;> cases h
  next a r h1 ha b h2 hb => exact ⟨splitOn_one h2 ▸ splitOn_two h1, ha, hb⟩
  next a r h1 ha b s h2 hbs =>
    simp only [Bool.and_eq_true] at hbs
    exact ⟨splitOn_two h2 ▸ splitOn_two h1, ha, hbs.1, hbs.2⟩
  next d h1 w n h2 w' n' hn hw hc =>
    simp only [Bool.and_eq_true, decide_eq_true_eq] at hc
    rw [single_some hw, single_some hn] at h2
    exact ⟨(splitOn_one h1).trans (splitOn_two h2), hc.1.1.1, hc.1.1.2, hc.1.2, hc.2⟩
  next d h1 x h2 w e h3 w' hw hc =>
    simp only [Bool.and_eq_true, decide_eq_true_eq, List.isEmpty_iff] at hc
    rw [single_some hw, hc.1.1] at h3
    exact ⟨(splitOn_one h1).trans ((splitOn_one h2).trans (splitOn_two h3)), hc.1.2, hc.2⟩
  next d h1 x h2 y h3 hy => exact ⟨(splitOn_one h1).trans ((splitOn_one h2).trans (splitOn_one h3)), hy⟩

theorem shape_ok {cs : List Char} {sh : Shape} : shape cs = some sh → ShapeText cs sh := by
  -- star, L, starStep, then whatever `shapeTail` accepts
  fun_cases shape cs <;> intro h <;> try cases h
  next h => exact h
  next _ h => exact h
  next _ _ hstar hc =>
    simp only [Bool.and_eq_true, decide_eq_true_eq] at hc
    refine ⟨?_, hc.2⟩
    rcases cs with _ | ⟨c, _ | ⟨d, r⟩⟩
    · cases hstar
    · cases hc.1
    · cases hstar; cases hc.1; rfl
  next => exact shapeTail_ok h

/-- the regexp stage (`shape_ok`) gives the text, the value stage (`parseInt_iff`) the numerals and their bounds -/
theorem parseOption_ok {k : Kind} {cs : List Char} {o : Opt} : parseOption k cs = some o →
    match o with
    | .wildcard => cs = ['*']
    | .item i => OptText cs i ∧ i.valid k = true := by
  -- the accepting branches, one for each `Shape`: star, L, starStep, range, rangeStep, nth, wL, num
  fun_cases parseOption k cs <;> intro h <;> try cases h
  next hs _ => exact shape_ok hs
  next hs hr => exact ⟨shape_ok hs ▸ .last, Item.valid_iff.mpr (by simpa [regexAllows] using hr)⟩
  next ds hs hr =>
    obtain ⟨s, hp, rfl⟩ := Option.map_eq_some_iff.mp h
    obtain ⟨hn, b1, b2⟩ := parseInt_iff.mp hp
    simp only [regexAllows, Bool.not_eq_false] at hr
    exact ⟨(shape_ok hs).1 ▸ .starStep hn, Item.valid_iff.mpr ⟨hr, b1, b2⟩⟩
  next a b x y hb ha hxy hs _ =>
    obtain ⟨na, a1, _⟩ := parseInt_iff.mp ha
    obtain ⟨nb, _, b2⟩ := parseInt_iff.mp hb
    exact ⟨(shape_ok hs).1 ▸ .range na nb, Item.valid_iff.mpr ⟨a1, Nat.not_lt.mp hxy, b2⟩⟩
  next a b s x y z hs' hb ha hxy hs hr =>
    obtain ⟨na, a1, _⟩ := parseInt_iff.mp ha
    obtain ⟨nb, _, b2⟩ := parseInt_iff.mp hb
    obtain ⟨ns, s1, s2⟩ := parseInt_iff.mp hs'
    simp only [regexAllows, Bool.not_eq_false] at hr
    exact ⟨(shape_ok hs).1 ▸ .rangeStep na nb ns, Item.valid_iff.mpr ⟨hr, a1, Nat.not_lt.mp hxy, b2, s1, s2⟩⟩
  next w n x y hn hw hs hr =>
    obtain ⟨hcs, c1, c2, c3, c4⟩ := shape_ok hs
    -- the regexp bounds the characters; as one-character numerals they are the digits of their values
    obtain ⟨ew, b1, b2⟩ := numeral_single (parseInt_iff.mp hw).1 c1 c2
    obtain ⟨en, b3, b4⟩ := numeral_single (parseInt_iff.mp hn).1 c3 c4
    simp only [regexAllows, Bool.not_eq_false, decide_eq_true_eq] at hr
    rw [hcs, ew, en]
    exact ⟨.nth b1 b2 b3 b4, Item.valid_iff.mpr ⟨hr, b1, b2, b3, b4⟩⟩
  next w hs hr =>
    obtain ⟨w', hp, rfl⟩ := Option.map_eq_some_iff.mp h
    obtain ⟨hcs, c1, c2⟩ := shape_ok hs
    obtain ⟨ew, b1, b2⟩ := numeral_single (parseInt_iff.mp hp).1 c1 c2
    simp only [regexAllows, Bool.not_eq_false, decide_eq_true_eq] at hr
    rw [hcs, ew]
    exact ⟨.lastW b1 b2, Item.valid_iff.mpr ⟨hr, b1, b2⟩⟩
  next d hs _ =>
    obtain ⟨n, hp, rfl⟩ := Option.map_eq_some_iff.mp h
    obtain ⟨hn, hb⟩ := parseInt_iff.mp hp
    exact ⟨(shape_ok hs).1 ▸ .num hn, Item.valid_iff.mpr hb⟩

-- `shape` has no converse lemma for `wL` and `nth`: their finitely many texts are run through `parseOption` itself;
-- the bound comes first (`w < 8`) so that `decide` can enumerate
theorem parseOption_lastW : ∀ w, w < 8 → 1 ≤ w →
    parseOption .wday [digitChar w, 'L'] = some (.item (.lastW w)) := by decide

theorem parseOption_nth : ∀ w, w < 8 → 1 ≤ w → ∀ n, n < 6 → 1 ≤ n →
    parseOption .wday [digitChar w, '#', digitChar n] = some (.item (.nth w n)) := by decide

theorem parseOption_iff (k : Kind) (cs : List Char) (i : Item) :
    parseOption k cs = some (.item i) ↔ OptText cs i ∧ i.valid k = true := by
  refine ⟨parseOption_ok, ?_⟩
  rintro ⟨ht, hv⟩
  replace hv := Item.valid_iff.mp hv
  cases ht with
  | num hn =>
    simp only [parseOption, shape_num hn.1, regexAllows, Bool.true_eq_false, if_false,
      parseInt_iff.mpr ⟨hn, hv⟩, Option.map_some]
  | range ha hb =>
    obtain ⟨h1, h2, h3⟩ := hv
    simp only [parseOption, shape_range ha.1 hb.1, regexAllows, Bool.true_eq_false, if_false,
      parseInt_iff.mpr ⟨ha, h1, Nat.le_trans h2 h3⟩, parseInt_iff.mpr ⟨hb, Nat.le_trans h1 h2, h3⟩, Nat.not_lt.mpr h2]
  | rangeStep ha hb hs =>
    obtain ⟨h0, h1, h2, h3, h45⟩ := hv
    simp only [parseOption, shape_rangeStep ha.1 hb.1 hs.1, regexAllows, h0, Bool.true_eq_false, if_false,
      parseInt_iff.mpr ⟨ha, h1, Nat.le_trans h2 h3⟩, parseInt_iff.mpr ⟨hb, Nat.le_trans h1 h2, h3⟩,
      parseInt_iff.mpr ⟨hs, h45⟩, Nat.not_lt.mpr h2]
  | starStep hd =>
    simp only [parseOption, shape_starStep hd.1, regexAllows, hv.1, Bool.true_eq_false, if_false,
      parseInt_iff.mpr ⟨hd, hv.2⟩, Option.map_some]
  | last => subst hv; decide
  | lastW h1 h2 => obtain ⟨rfl, _⟩ := hv; exact parseOption_lastW _ (by omega) h1
  | nth h1 h2 h3 h4 => obtain ⟨rfl, _⟩ := hv; exact parseOption_nth _ (by omega) h1 _ (by omega) h3

def optChar (c : Char) : Bool := isDigit c || c = '-' || c = '/' || c = '*' || c = '#' || c = 'L'

theorem optChar_props {c : Char} (h : optChar c = true) : c ≠ ',' ∧ c ≠ '@' ∧ isSpace c = false := by
  unfold optChar at h
  simp only [Bool.or_eq_true, decide_eq_true_eq] at h
  rcases h with ((((h | rfl) | rfl) | rfl) | rfl) | rfl
  · have := digit_toNat h
    exact ⟨digit_ne h _ (by decide), digit_ne h _ (by decide), not_space_of_range c (by omega) (by omega)⟩
  all_goals decide

theorem optText_chars {cs : List Char} {i : Item} (h : OptText cs i) : cs.all optChar = true := by
  have dg : ∀ {d : List Char} {n : Nat}, Numeral d n → d.all optChar = true := fun hn =>
    List.all_eq_true.mpr fun c hc => by simp [optChar, allDigits_mem hn.1 c hc]
  cases h with
  | num hn => exact dg hn
  | range ha hb => simp [dg ha, dg hb, optChar]
  | rangeStep ha hb hs => simp [dg ha, dg hb, dg hs, optChar]
  | starStep hd => simp [dg hd, optChar]
  | last => rfl
  | lastW h1 h2 => simp [digitChar_spec _ (Nat.lt_of_le_of_lt h2 (by decide)), optChar]
  | nth h1 h2 h3 h4 =>
    simp [digitChar_spec _ (Nat.lt_of_le_of_lt h2 (by decide)), digitChar_spec _ (Nat.lt_of_le_of_lt h4 (by decide)), optChar]

theorem optTexts_props {ts : List (List Char)} {is : List Item} (h : OptTexts ts is) :
    (ts = [] ↔ is = []) ∧ ∀ t ∈ ts, ∀ c ∈ t, optChar c = true := by
  induction h with
  | nil => simp
  | cons ht _ ih =>
    refine ⟨by simp, ?_⟩
    intro t hm
    rcases List.mem_cons.mp hm with rfl | hm
    · exact List.all_eq_true.mp (optText_chars ht)
    · exact ih.2 t hm

theorem parseOptions_iff (k : Kind) (opts : List (List Char)) (items : List Item) :
    parseOptions k opts = some items ↔ (OptTexts opts items ∧ ∀ i ∈ items, i.valid k = true) := by
  constructor
  · intro h
    fun_induction parseOptions k opts generalizing items with
    | case1 => cases h; exact ⟨.nil, by simp⟩
    | case2 fo rest i hi ih =>
      obtain ⟨r, hr, rfl⟩ := Option.map_eq_some_iff.mp h
      obtain ⟨c, d⟩ := (parseOption_iff k fo i).mp hi
      exact ⟨.cons c (ih r hr).1, List.forall_mem_cons.mpr ⟨d, (ih r hr).2⟩⟩
    | case3 => cases h
  · rintro ⟨ht, hv⟩
    induction ht with
    | nil => rfl
    | cons h1 _ ih =>
      obtain ⟨hv1, hv2⟩ := List.forall_mem_cons.mp hv
      simp [parseOptions, (parseOption_iff k _ _).mpr ⟨h1, hv1⟩, ih hv2]

theorem parseField_star {k : Kind} {cs : List Char} : parseField k cs = some .star ↔ cs = ['*'] := by
  constructor
  · fun_cases parseField k cs <;> intro h <;> try cases h
    next fo hs hw => exact splitOn_one hs ▸ parseOption_ok hw
    next => simp at h
  · rintro rfl; cases k <;> rfl

/-- with a single option the loop is its body: the match on the number of options only serves to let `*` through -/
theorem parseField_list {k : Kind} {cs : List Char} {items : List Item} :
    parseField k cs = some (.list items) ↔ parseOptions k (splitOn ',' cs) = some items := by
  fun_cases parseField k cs
  next fo hs hw => rw [show splitOn ',' cs = [fo] from hs]; simp [parseOptions, hw]
  next fo hs i hi => rw [show splitOn ',' cs = [fo] from hs]; simp [parseOptions, hi]
  next fo hs hn => rw [show splitOn ',' cs = [fo] from hs]; simp [parseOptions, hn]
  next => simp only [Option.map_eq_some_iff, Field.list.injEq, exists_eq_right]; rfl

theorem parseField_iff {k : Kind} {cs : List Char} {f : Field} : parseField k cs = some f ↔ FieldText k cs f := by
  cases f with
  | star => exact parseField_star
  | list items =>
    rw [parseField_list, parseOptions_iff]
    -- `splitOn` and `joinWith` are inverse to each other on texts without commas
    constructor
    · rintro ⟨a, b⟩
      refine ⟨?_, b, _, (joinWith_splitOn ',' cs).symm, a⟩
      rintro rfl
      exact splitOn_ne_nil ',' cs ((optTexts_props a).1.mpr rfl)
    · rintro ⟨hne, hv, texts, rfl, ht⟩
      obtain ⟨hl, hch⟩ := optTexts_props ht
      rw [splitOn_joinWith ',' texts (mt hl.mp hne) fun t ht hm => (optChar_props (hch t ht _ hm)).1 rfl]
      exact ⟨ht, hv⟩

theorem parseSpec_iff (cs : List Char) (s : Spec) : parseSpec cs = some s ↔ SpecText cs s := by
  unfold parseSpec SpecText
  constructor
  · intro h
    split at h
    · rename_i f0 f1 f2 f3 f4 hf
      split at h
      -- `parseSpec` parses the month field before the day field, hence `h3` before `h2`
      · rename_i mi ho mo da wd h0 h1 h3 h2 h4
        simp only [Option.some.injEq] at h; subst h
        exact ⟨f0, f1, f2, f3, f4, hf, parseField_iff.mp h0, parseField_iff.mp h1,
          parseField_iff.mp h2, parseField_iff.mp h3, parseField_iff.mp h4⟩
      · cases h
    · cases h
  · rintro ⟨f0, f1, f2, f3, f4, hf, h0, h1, h2, h3, h4⟩
    rw [hf]
    simp only [parseField_iff.mpr h0, parseField_iff.mpr h1, parseField_iff.mpr h2,
      parseField_iff.mpr h3, parseField_iff.mpr h4]

theorem FieldText.valid {k : Kind} {cs : List Char} {f : Field} (h : FieldText k cs f) : f.valid k = true := by
  cases f with
  | star => rfl
  | list items => exact Field.valid_list.mpr ⟨h.1, h.2.1⟩

theorem parseSpec_valid {cs : List Char} {s : Spec} (h : parseSpec cs = some s) : s.valid = true := by
  obtain ⟨_, _, _, _, _, _, h0, h1, h2, h3, h4⟩ := (parseSpec_iff cs s).mp h
  exact Spec.valid_iff.mpr ⟨h0.valid, h1.valid, h2.valid, h3.valid, h4.valid⟩

theorem FieldText.word {k : Kind} {cs : List Char} {f : Field} (h : FieldText k cs f) :
    cs ≠ [] ∧ ∀ c ∈ cs, c ≠ '@' ∧ isSpace c = false := by
  constructor
  -- the parser rejects the empty text for every kind, which is quicker than taking `FieldText` apart
  · rintro rfl
    have := parseField_iff.mpr h
    cases k <;> cases this
  · intro c hc
    cases f with
    | star => rw [h] at hc; simp at hc; subst hc; decide
    | list items =>
      obtain ⟨_, _, texts, rfl, ht⟩ := h
      rcases mem_joinWith hc with rfl | ⟨t, hm, hc⟩
      · decide
      · exact (optChar_props ((optTexts_props ht).2 t hm c hc)).2

end ErgoVerif.Cron
