import ErgoVerif.Lemmas.EdfDec
/-! Where the raw decoder can panic: never on a type without interface positions (`dec_pf`), because what decodes at a
    strict key type is hashable (`dec_hashable`). -/
namespace ErgoVerif.Edf

mutual
/-- key types whose decoded values are always hashable: no interface anywhere inside -/
def Ty.strict : Ty → Bool
  | .bool | .num _ | .str | .atom | .idr _ | .idn _ | .time => true
  | .array _ t => t.strict
  | .named _ t => t.strict
  | .struct _ fs => fs.strict
  | _ => false
def Tys.strict : Tys → Bool
  | .nil => true
  | .cons t ts => t.strict && ts.strict
end

mutual
/-- statically panic-free types: no interface-typed position (no type descriptor is ever read while decoding
    them) and every map key type is strict -/
def Ty.pf : Ty → Bool
  | .any => false
  | .slice t => t.pf
  | .array _ t => t.pf
  | .map k v => k.strict && k.pf && v.pf
  | .named _ t => t.pf
  | .struct _ fs => fs.pf
  | _ => true
def Tys.pf : Tys → Bool
  | .nil => true
  | .cons t ts => t.pf && ts.pf
end

theorem iterV_ne_panic (f : Bytes → Res (Val × Bytes)) (h : ∀ bs, f bs ≠ .panic) (n : Nat) (bs : Bytes) :
    iterV f n bs ≠ .panic := by
  -- the two ways to `.panic` (so too in `iterF`): case4, the rest of the loop does; case6, the item does
  fun_induction iterV f n bs
  case case4 hp ih => exact absurd hp ih
  case case6 hp => exact absurd hp (h _)
  all_goals nofun

theorem iterF_ne_panic (f : Ty → Bytes → Res (Val × Bytes)) (h : ∀ t, t.pf = true → ∀ bs, f t bs ≠ .panic)
    (fs : Tys) (bs : Bytes) (hp : fs.pf = true) : iterF f fs bs ≠ .panic := by
  fun_induction iterF f fs bs
  case case4 hpn ih => exact absurd hpn (ih (Bool.and_eq_true_iff.1 hp).2)
  case case6 hpn => exact absurd hpn (h _ (Bool.and_eq_true_iff.1 hp).1 _)
  all_goals nofun

theorem iterP_ne_panic (fk fv : Bytes → Res (Val × Bytes)) (hk : ∀ bs, fk bs ≠ .panic) (hv : ∀ bs, fv bs ≠ .panic)
    (hh : ∀ bs k r, fk bs = .ok (k, r) → k.hashable = true) (n : Nat) (acc : Pairs) (bs : Bytes) :
    iterP fk fv n acc bs ≠ .panic := by
  -- case2: the loop goes on; case3: the key is not hashable; case5, case7: the value, the key decoder panics
  fun_induction iterP fk fv n acc bs
  case case2 ih => exact ih
  case case3 hkk _ _ _ hn => exact absurd (hh _ _ _ hkk) hn
  case case5 hp => exact absurd hp (hv _)
  case case7 hp => exact absurd hp (hk _)
  all_goals nofun

theorem decLeaf_hashable (o : Opts) (t : Ty) (bs : Bytes) (v : Val) (r : Bytes) (hs : t.strict = true) :
    decLeaf o t bs = .ok (v, r) → v.hashable = true := by
  fun_cases decLeaf o t bs <;> intro h <;> cases h
  -- a cached error can be any value: `error` is not a strict type
  case case29 => cases hs
  all_goals rfl

theorem Res.mapVal_ne_panic {α : Type} {f : α → Val} {x : Res (α × Bytes)} (h : x ≠ .panic) : x.mapVal f ≠ .panic := by
  cases x <;> simp_all [Res.mapVal]

theorem counted_ne_panic {tag : UInt8} {items : Nat → Bytes → Res (Val × Bytes)} (h : ∀ n r, items n r ≠ .panic)
    (bs : Bytes) : counted tag items bs ≠ .panic := by
  fun_cases counted tag items bs <;> first | exact h _ _ | nofun

/-- a decoded value of a strict type is hashable: what keeps SetMapIndex from panicking on a decoded key -/
theorem dec_hashable (o : Opts) : ∀ (fuel : Nat) (dt : Bool) (t : Ty), t.strict = true → ∀ (bs : Bytes) (v : Val) (r : Bytes),
    dec o fuel dt t bs = .ok (v, r) → v.hashable = true
  | 0, _, _, _, _, _, _, h => by cases h
  | f+1, dt, t, hs, bs, v, r, h => by
    have ih := dec_hashable o f false
    cases dec_ok h with
    -- of the types with a decoder only arrays, structs and leaves can be strict
    | anyNil | anyFlat | anyVal | marsh => cases hs
    | nilSeq | nilMap => rfl
    | seq ht | map _ _ _ _ ht => cases ht <;> cases hs
    | arr e ht _ hit =>
      have : e.strict = true := by cases ht <;> exact hs
      exact iterV_induct (Q := fun _ _ vs _ => vs.hashable = true) (fun _ => rfl)
        (fun _ _ _ _ _ _ hv ihs => by simp [Vals.hashable, ih e this _ _ _ hv, ihs]) _ _ _ _ hit
    | struct hit =>
      exact iterF_induct (Q := fun fs _ vs _ => fs.strict = true → vs.hashable = true) (fun _ _ => rfl)
        (fun _ _ _ _ _ _ _ hv ihs hs => by
          simp only [Tys.strict, Bool.and_eq_true] at hs
          simp [Vals.hashable, ih _ hs.1 _ _ _ hv, ihs hs.2]) _ _ _ _ hit hs
    | leaf hl _ hdl => exact decLeaf_hashable o _ _ _ _ (by cases hl <;> exact hs) hdl

theorem dec_pf (o : Opts) : ∀ (fuel : Nat) (dt : Bool) (t : Ty) (bs : Bytes), t.pf = true → dec o fuel dt t bs ≠ .panic
  | 0, _, _, _, _ => nofun
  | f+1, dt, t, bs, hp => by
    have ih : ∀ t', t'.pf = true → ∀ bs, dec o f false t' bs ≠ .panic := fun t' h bs => dec_pf o f false t' bs h
    cases t.view with
    | any => cases hp
    | seq tag e ht =>
      have : e.pf = true := by cases ht <;> exact hp
      rw [dec_seq ht]
      exact counted_ne_panic (fun n r => Res.mapVal_ne_panic (iterV_ne_panic _ (ih e this) n r)) bs
    | arr n e ht =>
      have : e.pf = true := by cases ht <;> exact hp
      rw [dec_arr ht]
      split
      · simp
      · exact Res.mapVal_ne_panic (iterV_ne_panic _ (ih e this) n bs)
    | map tag k v ht =>
      -- keys of a strict type are hashable, so SetMapIndex cannot panic either
      have : (k.strict = true ∧ k.pf = true) ∧ v.pf = true := by
        cases ht <;> simpa only [Ty.pf, Bool.and_eq_true] using hp
      rw [dec_mapOf ht]
      exact counted_ne_panic (fun n r => Res.mapVal_ne_panic
        (iterP_ne_panic _ _ (ih k this.1.2) (ih v this.2) (dec_hashable o f false k this.1.1) n .nil r)) bs
    | struct nm fs =>
      rw [dec_struct]
      exact Res.mapVal_ne_panic (iterF_ne_panic (fun t b => dec o f false t b) (fun t h bs => ih t h bs) fs bs hp)
    | marsh nm sz =>
      simp only [dec]
      split; · simp
      split <;> simp
    | leaf c tag t' hl =>
      rw [dec_leaf hl]
      split
      · exact decLeaf_ne_panic o _ _
      · simp
    | namedBad h => rw [h]; simp
end ErgoVerif.Edf
