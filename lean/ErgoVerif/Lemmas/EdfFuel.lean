import ErgoVerif.Lemmas.EdfDec
/-! The fuel of `dec` only bounds the nesting depth (`dec_mono`). -/
namespace ErgoVerif.Edf

/-- `a` is `err` (possibly for lack of fuel) or already the final answer -/
def Res.Le {α : Type} (a b : Res α) : Prop := a = .err ∨ a = b

theorem iterV_mono (g g' : Bytes → Res (Val × Bytes)) (h : ∀ bs, Res.Le (g bs) (g' bs)) :
    ∀ n bs, Res.Le (iterV g n bs) (iterV g' n bs)
  | 0, bs => Or.inr rfl
  | n+1, bs => by
    simp only [iterV]
    rcases h bs with he | he
    · left; simp [he]
    · rw [← he]
      cases g bs with
      | err => left; rfl
      | panic => right; rfl
      | ok p =>
        obtain ⟨v, r⟩ := p
        simp only
        rcases iterV_mono g g' h n r with h2 | h2
        · left; simp [h2]
        · right; rw [h2]

theorem iterF_mono (g g' : Ty → Bytes → Res (Val × Bytes)) (h : ∀ t bs, Res.Le (g t bs) (g' t bs)) :
    ∀ (fs : Tys) bs, Res.Le (iterF g fs bs) (iterF g' fs bs)
  | .nil, bs => Or.inr rfl
  | .cons t ts, bs => by
    simp only [iterF]
    rcases h t bs with he | he
    · left; simp [he]
    · rw [← he]
      cases g t bs with
      | err => left; rfl
      | panic => right; rfl
      | ok p =>
        obtain ⟨v, r⟩ := p
        simp only
        rcases iterF_mono g g' h ts r with h2 | h2
        · left; simp [h2]
        · right; rw [h2]

theorem iterP_mono (gk gk' gv gv' : Bytes → Res (Val × Bytes)) (hk : ∀ bs, Res.Le (gk bs) (gk' bs))
    (hv : ∀ bs, Res.Le (gv bs) (gv' bs)) : ∀ n acc bs, Res.Le (iterP gk gv n acc bs) (iterP gk' gv' n acc bs)
  | 0, acc, bs => Or.inr rfl
  | n+1, acc, bs => by
    simp only [iterP]
    rcases hk bs with he | he
    · left; simp [he]
    · rw [← he]
      cases gk bs with
      | err => left; rfl
      | panic => right; rfl
      | ok p =>
        obtain ⟨k, r⟩ := p
        simp only
        rcases hv r with he2 | he2
        · left; simp [he2]
        · rw [← he2]
          cases gv r with
          | err => left; rfl
          | panic => right; rfl
          | ok p2 =>
            obtain ⟨v, r'⟩ := p2
            simp only
            by_cases hh : k.hashable = true
            · simp only [hh, ↓reduceIte]; exact iterP_mono gk gk' gv gv' hk hv n _ _
            · right; simp [hh]

theorem Res.mapVal_mono {α : Type} {f : α → Val} {x y : Res (α × Bytes)} (h : Res.Le x y) :
    Res.Le (x.mapVal f) (y.mapVal f) := by
  rcases h with h | h
  · left; rw [h]; rfl
  · right; rw [h]

theorem counted_mono {tag : UInt8} {items items' : Nat → Bytes → Res (Val × Bytes)}
    (h : ∀ n r, Res.Le (items n r) (items' n r)) (bs : Bytes) : Res.Le (counted tag items bs) (counted tag items' bs) := by
  -- case2: the nil marker; case6: tag and count pass, `items` runs; every other branch is `.err`
  fun_cases counted tag items bs
  case case2 => exact .inr (by simp only [counted, *, if_true])
  case case6 hn ht _ _ hr hl =>
    simp only [counted, hn, ht, hr, hl, if_false, Bool.false_eq_true]
    exact h _ _
  all_goals exact .inl rfl

theorem dec_mono (o : Opts) : ∀ (f g : Nat), f ≤ g → ∀ (dt : Bool) (t : Ty) (bs : Bytes), Res.Le (dec o f dt t bs) (dec o g dt t bs)
  | 0, _, _, dt, t, bs => Or.inl rfl
  | f+1, 0, hle, _, _, _ => by omega
  | f+1, g+1, hle, dt, t, bs => by
    have ih : ∀ dt t bs, Res.Le (dec o f dt t bs) (dec o g dt t bs) := dec_mono o f g (by omega)
    cases t.view with
    | any =>
      simp only [dec]
      cases getDecoder o dt bs with
      | err => left; rfl
      | panic => right; rfl
      | ok p =>
        obtain ⟨ot, r, dt'⟩ := p
        cases ot with
        | none => right; rfl
        | some t' =>
          simp only
          rcases ih dt' t' r with h | h
          · left; simp [h]
          · right; rw [h]
    | seq tag e ht =>
      rw [dec_seq ht, dec_seq ht]
      exact counted_mono (fun n r => Res.mapVal_mono (iterV_mono _ _ (ih false e) n r)) bs
    | arr n e ht =>
      rw [dec_arr ht, dec_arr ht]
      split
      · left; rfl
      · exact Res.mapVal_mono (iterV_mono _ _ (ih false e) n bs)
    | map tag k v ht =>
      rw [dec_mapOf ht, dec_mapOf ht]
      exact counted_mono (fun n r => Res.mapVal_mono (iterP_mono _ _ _ _ (ih false k) (ih false v) n .nil r)) bs
    | struct nm fs =>
      rw [dec_struct, dec_struct]
      exact Res.mapVal_mono (iterF_mono _ _ (fun t b => ih false t b) fs bs)
    | marsh nm sz => exact Or.inr rfl
    | leaf c tag t' hl => right; rw [dec_leaf hl, dec_leaf hl]
    | namedBad h => left; exact h o f dt bs

end ErgoVerif.Edf
