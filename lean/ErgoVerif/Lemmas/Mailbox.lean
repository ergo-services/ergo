import ErgoVerif.Model.Mailbox
/-! The four-queue mailbox (`Model/Mailbox.lean`): what one `pick` does, and per-queue conservation over all histories. -/
namespace ErgoVerif.Mailbox

theorem pick_spec (mb : MB) (order : List Nat) (m : Msg) (mb' : MB) (h : pick mb order = some (m, mb')) :
    ∃ k rest, k ∈ order ∧ mb.q k = m :: rest ∧ mb'.q k = rest ∧ (∀ j, j ≠ k → mb'.q j = mb.q j) ∧
      (order.Pairwise (· < ·) → ∀ j ∈ order, j < k → mb.q j = []) := by
  fun_induction pick mb order
  · cases h
  · next k ks m0 rest hq =>
    cases h
    refine ⟨k, rest, List.mem_cons_self, hq, by simp, by intro j hj; simp [hj], fun hp j hj hjk => ?_⟩
    -- `k` is polled first and the order increases: nothing polled has a smaller code
    rcases List.mem_cons.mp hj with rfl | hj
    · exact absurd hjk (Nat.lt_irrefl _)
    · exact absurd hjk (Nat.lt_asymm ((List.pairwise_cons.mp hp).1 j hj))
  · next k ks hq ih =>
    obtain ⟨k', rest, hmem, hk, hk', hoth, hlt⟩ := ih h
    refine ⟨k', rest, List.mem_cons_of_mem _ hmem, hk, hk', hoth, fun hp j hj hjk => ?_⟩
    rcases List.mem_cons.mp hj with rfl | hj
    · exact hq
    · exact hlt (List.pairwise_cons.mp hp).2 j hj hjk

theorem pick_none (mb : MB) (order : List Nat) (h : pick mb order = none) : ∀ k ∈ order, mb.q k = [] := by
  fun_induction pick mb order
  · simp
  · cases h
  · next k ks hq ih => simpa [hq] using ih h

/-- per-queue conservation invariant: what was handled from queue k, followed by what is still queued there,
    is exactly what was pushed into k, in push order -/
def Inv (s : St) : Prop :=
  ∀ k, s.handled.filter (fun m => m.queue = k) ++ s.mb.q k = s.pushed.filter (fun m => m.queue = k)

theorem inv_init : Inv St.init := by intro k; simp [St.init, MB.empty]

theorem step_inv (order : List Nat) (s : St) (o : Op) (h : Inv s) : Inv (step order s o) := by
  -- a push; a pick that finds a message; a pick that finds none
  fun_cases step order s o
  · next m =>
    intro k
    have := h k
    by_cases hk : k = m.queue
    · subst hk; simp [MB.push, List.filter_append, ← this]
    · have hk' : ¬ m.queue = k := fun e => hk e.symm
      simp [MB.push, hk, hk', List.filter_append, this]
  · next m mb' hp =>
    obtain ⟨k, rest, _, hk, hk', hoth, _⟩ := pick_spec _ _ _ _ hp
    -- what sits in queue `k` was pushed into it
    have hmq : m.queue = k := by
      have : m ∈ s.pushed.filter (fun m => m.queue = k) := h k ▸ List.mem_append_right _ (by rw [hk]; simp)
      simpa using (List.mem_filter.mp this).2
    intro j
    have := h j
    by_cases hj : j = k
    · subst hj
      rw [hk] at this
      simp [hk', List.filter_append, hmq, ← this]
    · have : ¬ m.queue = j := by rw [hmq]; exact fun e => hj e.symm
      simp [hoth j hj, List.filter_append, this, h j]
  · exact h

theorem runOps_inv (order : List Nat) (ops : List Op) {s : St} (h : Inv s) : Inv (runOps order s ops) :=
  List.foldlRecOn ops _ h fun s h o _ => step_inv order s o h

end ErgoVerif.Mailbox
