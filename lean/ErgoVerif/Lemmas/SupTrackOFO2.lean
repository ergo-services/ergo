import ErgoVerif.Lemmas.SupTrackOFO
/-
One-for-one tracking at the level of the closed system (`Loop`), as `SupTrackOFO` is at the level of the machine: the
loop of handleAction keeps `OFO.TInv` (`afterCall_track`), hence every step that avoids D26 (EnableChild while a child
of the spec is still in the children table) does (`step_track`), hence every such history (`reach_track`).
-/
namespace ErgoVerif.Sup

/-- what tracking says of a configuration whatever its status: the chain of starts inside handleAction carries it from
spawn to spawn.  `pid0`: 0 in a spec means "no child", so it must never be handed out as a pid -/
structure OFO.TCore (c : Loop OFO) : Prop where
  glue : Glue c
  wf : OFO.WF c.m
  tinv : OFO.TInv c.m c.kids
  pid0 : c.nextPid ≠ 0

structure OFO.Track (c : Loop OFO) : Prop extends OFO.TCore c where
  live : c.status = .running → OFO.Live c.m c.kids
  term : ∀ r, c.status = .terminated r → (c.m.shutdown = true → c.m.shutdownReason = some r) ∧ ∀ p, p ∉ keys c.kids
  sane : c.status ≠ .panicked ∧ c.status ≠ .stuck

/-- the D26 exclusion, as a decidable condition on (configuration, label): no EnableChild for a spec that still has an
entry in the children table (while the supervisor is shutting down the call is refused and changes nothing).
StartChild / AddChild / EnableChild while shutting down are ordinary steps: they are refused. -/
def ofoSafe (c : Loop OFO) : Label → Bool
  | .enable name _ => c.m.shutdown || !(c.kids.any (fun k => k.2 == name))
  | _ => true

def ofoStepSafe (c : Loop OFO) (l : Label) : Option (Loop OFO) := if ofoSafe c l then ofoStep c l else none

theorem ofoStepSafe_some {c c' : Loop OFO} {l : Label} (hs : ofoStepSafe c l = some c') :
    ofoSafe c l = true ∧ ofoStep c l = some c' := by
  unfold ofoStepSafe at hs
  split at hs
  · exact ⟨‹_›, hs⟩
  · cases hs

theorem OFO.track_chain (api : Bool) (c : Loop OFO) (a : Action)
    (h : OFO.TCore c ∧ OFO.TGood c.m c.kids a ∧ (api = true → ApiOK a)) (ha : a.act = .start) :
    ∃ a', (ofoMachine.childStarted c.m a.spec c.nextPid).2 = .ok a' ∧
      (OFO.TCore (spawn ofoMachine c a) ∧ OFO.TGood (spawn ofoMachine c a).m (spawn ofoMachine c a).kids a' ∧
        (api = true → ApiOK a')) ∧
      startsLeft (spawn ofoMachine c a).m.spec.length a' < startsLeft c.m.spec.length a := by
  obtain ⟨hc, hgood, _⟩ := h
  have hg : OFO.TStart c.m a := by
    unfold OFO.TGood at hgood; rw [ha] at hgood; exact hgood
  obtain ⟨a', hres, ⟨hwf', _⟩, hrem⟩ := OFO.chain c a ⟨hc.wf, fun _ => hg.2.1⟩ ha
  obtain ⟨ht', a2, hres2, hgood2, hkind2⟩ := OFO.childStarted_track c.m c.kids hc.tinv a hg c.nextPid hc.pid0 hc.glue.fresh
  obtain rfl : a' = a2 := Res.ok.inj (hres.symm.trans hres2)
  refine ⟨a', hres, ⟨⟨(Glue.ghost _).spawn c a hc.glue, hwf', ht', Nat.succ_ne_zero _⟩, hgood2, fun _ => ?_⟩, hrem⟩
  rcases hkind2 with hk | hk <;> exact ⟨by rw [hk]; simp, by rw [hk]; simp⟩

theorem OFO.afterCall_track (fuel : Nat) (fromApi : Bool) (bits : List Bool) (c : Loop OFO) (m : OFO) (r : OFO × Res)
    (hg : Glue c) (hst : c.status = .running) (hn0 : c.nextPid ≠ 0) (ha : OFO.Answer m r)
    (ht : OFO.TAnswer c.kids fromApi r) (hfuel : m.spec.length + 3 ≤ fuel) :
    OFO.Track (afterCall ofoMachine fuel fromApi bits c r) := by
  obtain ⟨hwf, _, hlen⟩ := ha
  obtain ⟨c', a', ⟨hc', hgd, hap⟩, hs, he⟩ := afterCall_ends ofoMachine _ (fun m a => startsLeft m.spec.length a)
    (OFO.track_chain fromApi) fuel fromApi bits c ht.2 (fun _ h => ⟨⟨⟨hg.kids_iff, hg.disj, hg.fresh⟩, hwf, ht.1, hn0⟩, h⟩)
    (fun a => Nat.lt_of_le_of_lt (startsLeft_le r.1.spec.length a) (by omega))
  obtain ⟨es, st, hfin, hlive, hdone, hsane⟩ := finish_conclude fromApi c' a' (hs.trans hst)
    ((OFO.tgood_iff ..).mp hgd).1 (fun hs hx => by rw [hs.1] at hx; simp at hx) (fun h => Or.inl (hap h))
  rw [he, hfin]
  exact ⟨⟨⟨hc'.glue.kids_iff, hc'.glue.disj, hc'.glue.fresh⟩, hc'.wf, hc'.tinv, hc'.pid0⟩, hlive, hdone, hsane⟩

theorem OFO.call_track {c c0 : Loop OFO} {l : Label} {api : Bool} {bits : List Bool} {r : OFO × Res}
    (hc : Call ofoMachine c l api bits c0 r) (hsafe : ofoSafe c l = true) (h : OFO.TCore c)
    (hl : OFO.Live c.m c.kids) : OFO.TAnswer c0.kids api r := by
  cases hc with
  | @deliver pid now _ r hr =>
    -- the exit belongs to a child of the table, filed under its spec name
    have hk := lookupKid_mem pid c.kids
      ((h.glue.kids_iff pid).mpr (Or.inr ((mem_keys _ _).mpr ⟨r, lookupReason_mem pid c.inflight r hr⟩)))
    have : OFO.TStep (c.kids.filter (fun x => x.1 ≠ pid)) (c.m.childTerminated (lookupKid pid c.kids) pid r now) := by
      cases hsd : c.m.shutdown with
      | false =>
        exact OFO.ct_track c.m c.kids h.tinv hsd _ pid (OFO.hit_known c.m c.kids h.tinv hsd _ pid hk)
          (h.wf.found_idx _ _) r now
      | true => exact OFO.ct_track_shut c.m c.kids h.tinv hsd _ pid r now
    exact this.tanswer
  | @foreign r now _ =>
    cases hsd : c.m.shutdown with
    | false => exact (OFO.ct_track_foreign c.m c.kids h.tinv hsd c.nextPid h.pid0 h.glue.fresh r now).tanswer
    | true =>
      have := OFO.ct_track_shut c.m c.kids h.tinv hsd 0 c.nextPid r now
      rw [filter_fresh c.kids c.nextPid h.glue.fresh] at this
      exact this.tanswer
  | @startChild name args _ => exact OFO.childSpec_track c.m c.kids h.tinv h.wf hl name args
  | @addChild name sig _ => exact OFO.childAddSpec_track c.m c.kids h.tinv h.wf hl name sig
  | @enable name _ =>
    refine OFO.childEnable_track c.m c.kids h.tinv h.wf hl name ?_
    simp only [ofoSafe, Bool.or_eq_true, Bool.not_eq_true', List.any_eq_false, beq_iff_eq] at hsafe
    exact hsafe.imp id (fun hs p hp => hs (p, name) hp rfl)
  | @disable name => exact OFO.childDisable_track c.m c.kids h.tinv hl name

theorem OFO.step_track (c : Loop OFO) (l : Label) (c' : Loop OFO) (h : OFO.Track c) (hs : ofoStepSafe c l = some c') : OFO.Track c' := by
  obtain ⟨hsafe, hs⟩ := ofoStepSafe_some hs
  obtain ⟨hst, ⟨pid, r, rfl, hpa, rfl⟩ | ⟨api, bits, c0, r, hc, rfl⟩⟩ := step_cases hs
  · exact ⟨⟨(Glue.ghost ofoMachine).die c pid r hpa h.glue, h.wf, h.tinv, h.pid0⟩, h.live, h.term, h.sane⟩
  · exact OFO.afterCall_track _ api bits c0 c.m r ((Glue.ghost _).call hc h.glue) (hc.status_eq.trans hst)
      (fun h0 => h.pid0 (Nat.le_zero.mp (h0 ▸ hc.nextPid_le))) (OFO.call_good hc h.wf)
      (OFO.call_track hc hsafe h.toTCore (h.live hst)) (Nat.le_refl _)

theorem OFO.boot_track (sp : SupSpec) (hv : ValidSpec sp) : OFO.Track (ofoBoot sp) := by
  have ⟨ha, hl⟩ := OFO.init_answer sp hv.1
  obtain ⟨⟨n, sg⟩, t, hch⟩ := List.exists_cons_of_ne_nil hv.1
  refine OFO.afterCall_track _ false [] _ _ _ (by constructor <;> simp [keys]) rfl (by simp) ha ?_ (by rw [hl]; exact Nat.le_refl _)
  rw [OFO.init_cons hch]
  -- no spec of the fresh slice has a child, the table is empty
  have hno : ∀ n p, ¬ Runs (mkSpecs true 0 sp.children) n p := fun _ _ ⟨hp0, c, hc, _, e⟩ => hp0 (e ▸ mkSpecs_pid _ _ _ c hc)
  have hat : (mkSpecs true 0 sp.children)[0]? = some ({ name := n, significant := sg, register := true, i := 0 } : ChildSpec) := by
    rw [hch]; rfl
  refine ⟨OFO.tinv_of_runs ?_ (fun c hc => hv.2.2 _ (mkSpecs_names .. ▸ List.mem_map_of_mem hc))
    (fun _ _ _ h1 => absurd h1 (hno _ _)) (fun _ p n => ⟨fun hx => (nomatch hx), fun hx => absurd hx (hno _ _)⟩)
    (fun hx => nomatch hx), ⟨rfl, ⟨_, hat, rfl⟩, _, hat, rfl⟩, by simp⟩
  show ((mkSpecs true 0 sp.children).map (·.name)).Nodup
  rw [mkSpecs_names]; exact hv.2.1

theorem OFO.reach_track {sp : SupSpec} (hv : ValidSpec sp) {c : Loop OFO}
    (h : ∃ ls, run ofoStepSafe (ofoBoot sp) ls = some c) : OFO.Track c := by
  obtain ⟨ls, hr⟩ := h
  exact run_inv OFO.step_track (OFO.boot_track sp hv) hr

end ErgoVerif.Sup
