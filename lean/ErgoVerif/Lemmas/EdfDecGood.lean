import ErgoVerif.Lemmas.EdfRound
/-! What decodes is in canonical form for the encoding side (`dec_good`). -/
namespace ErgoVerif.Edf

/-- assumptions on the decoding side under which decoded values are in canonical form for the encoding side -/
structure DecGoodOK (o : Opts) : Prop where
  atomInline : ∀ a : Bytes, a.length ≤ 255 → AtomOK o (o.dmap a)
  atomCached : ∀ id a, o.atomOf id = some a → AtomOK o (o.dmap a)
  err : ∀ id e, o.errOf id = some e → LeafGood o .error e
  reg : ∀ nm t, o.reg nm = some t → DescOK o t ∧ t.closed = false

theorem Unfolds.descOK {o : Opts} (hg : DecGoodOK o) {t : Ty} (h : Unfolds o t) : DescOK o t := by
  induction h with
  -- the byte-tag table holds leaf types and `any` only: nothing to unfold
  | tag b h => exact tagTy_of_table (P := DescOK o) (by simp only [tagTable, List.forall_mem_cons, DescOK]; simp) h
  | reg nm h => exact (hg.reg _ _ h).1
  | slice _ ih => exact ih
  | array hn hs _ ih => exact ⟨hn, hs, ih⟩
  | map hc _ _ ihk ihv => exact ⟨hc, ihk, ihv⟩

mutual
/-- what a decoded value has to satisfy besides being decoded: `Excl` (it lies outside the zero-width defect region),
    and one more conjunct in the `any` clause: the descriptors of its dynamic types fit the 16-bit length field when
    encoded again -/
def Side (o : Opts) : Ty → Val → Prop
  | .any, .any t v => (encTy o t).length < 65536 ∧ Side o t v
  | .slice t, .list vs => (t.nz = true ∨ vs.length = 0) ∧ Sides o t vs
  | .array n t, .list vs => (t.nz = true ∨ n = 0) ∧ Sides o t vs
  | .map k v, .map ps => (k.nz = true ∨ v.nz = true ∨ ps.length = 0) ∧ Sidep o k v ps
  | .named _ (.slice t), .list vs => (t.nz = true ∨ vs.length = 0) ∧ Sides o t vs
  | .named _ (.array n t), .list vs => (t.nz = true ∨ n = 0) ∧ Sides o t vs
  | .named _ (.map k v), .map ps => (k.nz = true ∨ v.nz = true ∨ ps.length = 0) ∧ Sidep o k v ps
  | .struct _ fs, .list vs => Sidef o fs vs
  | _, _ => True
def Sides (o : Opts) : Ty → Vals → Prop
  | _, .nil => True
  | t, .cons v vs => Side o t v ∧ Sides o t vs
def Sidep (o : Opts) : Ty → Ty → Pairs → Prop
  | _, _, .nil => True
  | kt, vt, .cons k v ps => Side o kt k ∧ Side o vt v ∧ Sidep o kt vt ps
def Sidef (o : Opts) : Tys → Vals → Prop
  | .cons t ts, .cons v vs => Side o t v ∧ Sidef o ts vs
  | _, _ => True
end

theorem decLeaf_good (o : Opts) (hg : DecGoodOK o) (t : Ty) (bs : Bytes) (v : Val) (r : Bytes) :
    decLeaf o t bs = .ok (v, r) → LeafGood o t v := by
  have atom := fun {bs a r} (h : readAtom o bs = .ok (a, r)) => (readAtom_of (P := AtomOK o) hg.atomCached hg.atomInline h).1
  -- the ways out in the order of `decLeaf`: bool, num, str, bin, atom, idr, idn, time, then error as nil, cached, text
  fun_cases decLeaf o t bs <;> intro h <;> cases h
  · trivial
  · exact numCanon_idem _ _
  · trivial
  · trivial
  · exact atom ‹_›
  · exact atom ‹_›
  · exact ⟨atom ‹readAtom o bs = _›, atom ‹_›⟩
  · trivial
  · trivial
  · exact hg.err _ _ ‹_›
  · trivial

theorem Goodp_of_all (o : Opts) (kt vt : Ty) : ∀ (ps : Pairs),
    Pairs.All (fun k v => (Side o kt k → Good o kt k) ∧ (Side o vt v → Good o vt v)) ps → Sidep o kt vt ps → Goodp o kt vt ps
  | .nil, _, _ => by simp [Goodp]
  | .cons k v ps, ha, hs => by
    simp only [Sidep] at hs
    simp only [Goodp]
    exact ⟨ha.1.1 hs.1, ha.1.2 hs.2.1, Goodp_of_all o kt vt ps ha.2 hs.2.2⟩

theorem Side_seq {o : Opts} {t e : Ty} {tag : UInt8} (h : t.IsSeq tag e) (vs : Vals) :
    Side o t (.list vs) ↔ (e.nz = true ∨ vs.length = 0) ∧ Sides o e vs := by
  cases h <;> simp only [Side]

theorem Side_arr {o : Opts} {t e : Ty} {n : Nat} (h : t.IsArr n e) (vs : Vals) :
    Side o t (.list vs) ↔ (e.nz = true ∨ n = 0) ∧ Sides o e vs := by
  cases h <;> simp only [Side]

theorem Side_map {o : Opts} {t k v : Ty} {tag : UInt8} (h : t.IsMap tag k v) (ps : Pairs) :
    Side o t (.map ps) ↔ (k.nz = true ∨ v.nz = true ∨ ps.length = 0) ∧ Sidep o k v ps := by
  cases h <;> simp only [Side]

theorem dec_good (o : Opts) (hg : DecGoodOK o) : ∀ (f : Nat) (dt : Bool) (t : Ty) (bs : Bytes) (v : Val) (r : Bytes),
    dec o f dt t bs = .ok (v, r) → Side o t v → Good o t v
  | 0, _, _, _, _, _, h, _ => by cases h
  | f+1, dt, t, bs, v, r, h, hs => by
    have ih := dec_good o hg f
    have items : ∀ {e n bs vs r}, iterV (dec o f false e) n bs = .ok (vs, r) → Sides o e vs → Goods o e vs :=
      fun {e} {_ _ _ _} => iterV_induct (Q := fun _ _ vs _ => Sides o e vs → Goods o e vs) (fun _ _ => trivial)
        (fun _ _ _ _ _ _ hv ihs hs => ⟨ih _ _ _ _ _ hv hs.1, ihs hs.2⟩) _ _ _ _
    cases dec_ok h with
    | anyNil => trivial
    | anyFlat _ hv hc =>
      rcases hc with ⟨rfl, rfl⟩ | ⟨rfl, rfl, rfl⟩
      · exact ih _ _ _ _ _ hv hs
      · trivial
    | anyVal hgd hv => exact ⟨((getDecoder_ok hgd).1 _ rfl).descOK hg, hs.1, ih _ _ _ _ _ hv hs.2⟩
    | nilSeq ht | nilMap ht => cases ht <;> trivial
    | seq ht h32 _ hit =>
      rw [Side_seq ht] at hs
      rw [Good_seq ht, iterV_length hit]
      -- the count was read from four bytes
      exact ⟨(rd32_ok _ _ _ h32).1, iterV_length hit ▸ hs.1, items hit hs.2⟩
    | arr _ ht _ hit =>
      rw [Side_arr ht] at hs
      rw [Good_arr ht]
      exact ⟨hs.1, items hit hs.2⟩
    | map kt vt n ps ht h32 _ hit =>
      rw [Side_map ht] at hs
      rw [Good_map ht]
      -- SetMapIndex overwrites: the decoded map has distinct keys, and at most the announced number of them
      obtain ⟨a, b⟩ := iterP_induct
        (Q := fun _ acc _ ps _ =>
          acc.All (fun k v => (Side o kt k → Good o kt k) ∧ (Side o vt v → Good o vt v)) → Pairs.KeysOK .nil acc →
          ps.All (fun k v => (Side o kt k → Good o kt k) ∧ (Side o vt v → Good o vt v)) ∧ Pairs.KeysOK .nil ps)
        (fun _ _ ha hn => ⟨ha, hn⟩)
        (fun _ acc _ k _ v _ _ _ hk hv' hh ihp ha hn =>
          ihp (Pairs.insert_all _ k v ⟨ih _ _ _ _ _ hk, ih _ _ _ _ _ hv'⟩ acc ha) (Pairs.insert_keysOK k v hh acc rfl hn))
        _ _ _ _ _ hit trivial trivial
      have hlen : ps.length ≤ 0 + n := iterP_length_le hit
      exact ⟨Nat.lt_of_le_of_lt (Nat.zero_add n ▸ hlen) (rd32_ok _ _ _ h32).1, hs.1, b, Goodp_of_all o kt vt ps a hs.2⟩
    | struct hit =>
      exact iterF_induct (Q := fun fs _ vs _ => Sidef o fs vs → Goodf o fs vs) (fun _ _ => trivial)
        (fun _ _ _ _ _ _ _ hv ihs hs => ⟨ih _ _ _ _ _ hv hs.1, ihs hs.2⟩) _ _ _ _ hit hs
    | marsh => trivial
    | leaf hl _ hdl => rw [Good_leaf hl]; exact decLeaf_good o hg _ _ _ _ hdl
end ErgoVerif.Edf
