import ErgoVerif.Model.Edf
/-! Maps as association lists: distinct keys (`Pairs.KeysOK`), and what `Pairs.insert` (SetMapIndex) keeps. -/
namespace ErgoVerif.Edf

def Pairs.snoc : Pairs → Val → Val → Pairs
  | .nil, k, v => .cons k v .nil
  | .cons k' v' ps, k, v => .cons k' v' (ps.snoc k v)

def Pairs.app : Pairs → Pairs → Pairs
  | .nil, qs => qs
  | .cons k v ps, qs => .cons k v (ps.app qs)

/-- the keys of `ps` are hashable, pairwise different and different from the keys already in `acc` -/
def Pairs.KeysOK : Pairs → Pairs → Prop
  | _, .nil => True
  | acc, .cons k v ps => acc.hasKey k = false ∧ k.hashable = true ∧ Pairs.KeysOK (acc.snoc k v) ps

theorem Pairs.insert_fresh : (acc : Pairs) → (k v : Val) → acc.hasKey k = false → acc.insert k v = acc.snoc k v
  | .nil, _, _, _ => rfl
  | .cons k' v' ps, k, v, h => by
    simp [Pairs.hasKey] at h
    simp [Pairs.insert, Pairs.snoc, h.1, Pairs.insert_fresh ps k v h.2]

theorem Pairs.snoc_app : (acc : Pairs) → (k v : Val) → (ps : Pairs) → (acc.snoc k v).app ps = acc.app (.cons k v ps)
  | .nil, _, _, _ => rfl
  | .cons k' v' qs, k, v, ps => by simp [Pairs.snoc, Pairs.app, Pairs.snoc_app qs k v ps]

theorem Pairs.app_nil : (a : Pairs) → a.app .nil = a
  | .nil => rfl
  | .cons k v ps => by simp [Pairs.app, Pairs.app_nil ps]

theorem Pairs.hasKey_snoc : (acc : Pairs) → (k v k' : Val) → (acc.snoc k v).hasKey k' = (acc.hasKey k' || decide (k = k'))
  | .nil, k, v, k' => by simp [Pairs.snoc, Pairs.hasKey]
  | .cons a b ps, k, v, k' => by simp [Pairs.snoc, Pairs.hasKey, Pairs.hasKey_snoc ps k v k', Bool.or_assoc]

/-- `KeysOK` looks at what is already there through `hasKey` alone: the values play no part -/
theorem Pairs.KeysOK_congr : (ps : Pairs) → {a b : Pairs} → (∀ k, b.hasKey k = a.hasKey k) → Pairs.KeysOK a ps →
    Pairs.KeysOK b ps
  | .nil, _, _, _, _ => trivial
  | .cons k v ps, _, _, h, ⟨h1, h2, h3⟩ =>
    ⟨h k ▸ h1, h2, Pairs.KeysOK_congr ps (fun k' => by rw [Pairs.hasKey_snoc, Pairs.hasKey_snoc, h]) h3⟩

/-- SetMapIndex keeps the keys distinct: a key that is there keeps its place and gets the new value, a new one goes
    to the end -/
theorem Pairs.insert_keysOK (k v : Val) (hk : k.hashable = true) (ps : Pairs) :
    ∀ {a : Pairs}, a.hasKey k = false → Pairs.KeysOK a ps → Pairs.KeysOK a (ps.insert k v) := by
  fun_induction Pairs.insert k v ps with
  | case1 => exact fun ha _ => ⟨ha, hk, trivial⟩
  | case2 v' ps =>
    exact fun _ ⟨h1, h2, h3⟩ => ⟨h1, h2, Pairs.KeysOK_congr ps (fun x => by rw [Pairs.hasKey_snoc, Pairs.hasKey_snoc]) h3⟩
  | case3 k' v' ps hne ih =>
    exact fun ha ⟨h1, h2, h3⟩ => ⟨h1, h2, ih (by rw [Pairs.hasKey_snoc, ha]; simpa using hne) h3⟩

def Pairs.All (P : Val → Val → Prop) : Pairs → Prop
  | .nil => True
  | .cons k v ps => P k v ∧ Pairs.All P ps

theorem Pairs.insert_all (P : Val → Val → Prop) (k v : Val) (hp : P k v) (acc : Pairs) :
    Pairs.All P acc → Pairs.All P (acc.insert k v) := by
  fun_induction Pairs.insert k v acc with
  | case1 => exact fun _ => ⟨hp, trivial⟩
  | case2 => exact fun h => ⟨hp, h.2⟩
  | case3 _ _ _ _ ih => exact fun h => ⟨h.1, ih h.2⟩

theorem Pairs.insert_length_le (acc : Pairs) (k v : Val) : (acc.insert k v).length ≤ acc.length + 1 := by
  fun_induction Pairs.insert k v acc with
  | case1 => exact Nat.le_refl _
  | case2 => exact Nat.le_succ _
  | case3 _ _ _ _ ih => exact Nat.succ_le_succ ih

end ErgoVerif.Edf
