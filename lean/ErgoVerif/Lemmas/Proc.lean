import ErgoVerif.Model.Proc
/-!
Invariants of the process state-word protocol (`Model/Proc.lean`): `Inv`, proved through its reading per value of the word
(`Tok`); `InvW` (somebody will look at the mailbox); `InvR` (a reason has a cause); and that an election of a finaliser is
final (`elected_final`).
-/
namespace ErgoVerif.Proc

-- `Inv` writes these two sums out in full; what is derived from it speaks through the names.

/-- runner-side owners: threads that hold the right to execute callbacks -/
def Cfg.RO (c : Cfg) : Nat := c.w1 + c.r0 + c.rb + c.r3 + c.re + c.rp + c.rk
/-- finalisers elected so far (waiting to enter ProcessTerminate, or entered) -/
def Cfg.fin (c : Cfg) : Nat := c.fE + c.fP + c.fK + c.terms

/-- the owner-token invariant, per value of the state word. The second alternative for `zombee`: a `Kill` found
    `terminated` (finalisation elected or done), has overwritten it and is about to store it back (`k1`). -/
def Inv (c : Cfg) : Prop :=
  c.fE + c.fP + c.fK + c.terms ≤ 1 ∧ c.tm ≤ c.terms ∧ c.i0 + c.i1 ≤ 1 ∧ c.s2 ≤ c.mail ∧
  c.accepted = c.handled + c.mail ∧
  (c.st = .init → c.w1 + c.r0 + c.rb + c.r3 + c.re + c.rp + c.rk = 0 ∧ c.k2 = 0 ∧ c.fE + c.fP + c.fK + c.terms = 0 ∧
      c.k1 = 0 ∧ c.k0 = 0 ∧ c.r4 = 0 ∧ c.r5 = 0) ∧
  (c.st ≠ .init → c.i0 + c.i1 = 0) ∧
  (c.st = .sleep → c.w1 + c.r0 + c.rb + c.r3 + c.re + c.rp + c.rk = 0 ∧ c.k2 = 0 ∧ c.fE + c.fP + c.fK + c.terms = 0 ∧ c.k1 = 0) ∧
  (c.st = .running → c.w1 + c.r0 + c.rb + c.r3 + c.re + c.rp + c.rk = 1 ∧ c.rk = 0 ∧ c.k2 = 0 ∧
      c.fE + c.fP + c.fK + c.terms = 0 ∧ c.k1 = 0) ∧
  (c.st = .wait → c.rb = 1 ∧ c.w1 + c.r0 + c.rb + c.r3 + c.re + c.rp + c.rk = 1 ∧ c.k2 = 0 ∧
      c.fE + c.fP + c.fK + c.terms = 0 ∧ c.k1 = 0) ∧
  (c.st = .zombee →
      (c.w1 + c.r0 + c.rb + c.r3 + c.re + c.rp + c.rk + c.k2 = 1 ∧ c.fE + c.fP + c.fK + c.terms = 0 ∧ c.k1 = 0) ∨
      (c.w1 + c.r0 + c.rb + c.r3 + c.re + c.rp + c.rk + c.k2 = 0 ∧ c.fE + c.fP + c.fK + c.terms = 1 ∧ c.k1 ≥ 1)) ∧
  (c.st = .terminated → c.w1 + c.r0 + c.rb + c.r3 + c.re + c.rp + c.rk + c.k2 = 0 ∧ c.fE + c.fP + c.fK + c.terms = 1)

theorem inv_init : Inv init := by
  unfold Inv init; simp

/-- `Inv` read by the value of the state word: the owner token is with the spawner (`sp`), in the word (`sleep`), on
    the runner side (`ro`), with a killer about to finalise (`k2`) or with the elected finaliser (`fin`), and the other
    arguments are the threads that some value of the word rules out. -/
def TokAt (sp ro k2 fin k1 k0 r4 r5 rb rk : Nat) : St → Prop
  | .init => sp ≤ 1 ∧ ro = 0 ∧ k2 = 0 ∧ fin = 0 ∧ k1 = 0 ∧ k0 = 0 ∧ r4 = 0 ∧ r5 = 0
  | .sleep => sp = 0 ∧ ro = 0 ∧ k2 = 0 ∧ fin = 0 ∧ k1 = 0
  | .running => sp = 0 ∧ ro = 1 ∧ rk = 0 ∧ k2 = 0 ∧ fin = 0 ∧ k1 = 0
  | .wait => sp = 0 ∧ ro = 1 ∧ rb = 1 ∧ k2 = 0 ∧ fin = 0 ∧ k1 = 0
  | .zombee => sp = 0 ∧ (ro + k2 = 1 ∧ fin = 0 ∧ k1 = 0 ∨ ro + k2 = 0 ∧ fin = 1 ∧ k1 ≥ 1)
  | .terminated => sp = 0 ∧ ro + k2 = 0 ∧ fin = 1

def Tok (c : Cfg) : Prop :=
  c.tm ≤ c.terms ∧ c.s2 ≤ c.mail ∧ c.accepted = c.handled + c.mail ∧
  TokAt (c.i0 + c.i1) c.RO c.k2 c.fin c.k1 c.k0 c.r4 c.r5 c.rb c.rk c.st

theorem inv_iff_tok (c : Cfg) : Inv c ↔ Tok c := by
  unfold Inv Tok Cfg.RO Cfg.fin
  generalize c.w1 + c.r0 + c.rb + c.r3 + c.re + c.rp + c.rk = ro
  generalize c.fE + c.fP + c.fK + c.terms = fin
  cases c.st <;> grind [TokAt]

/-- The sweep is over `Tok`: with `Inv` itself, `grind` goes through the seven implications of the hypothesis and of
    the goal at every leaf; here one value of the word selects one clause on either side. -/
theorem step_tok (c : Cfg) (l : Lbl) (c' : Cfg) (h : Tok c) (hs : step true c l = some c') : Tok c' := by
  revert c'
  unfold Tok Cfg.RO Cfg.fin at h
  -- `TokAt … c.st` unfolds only at a constructor: `grind` splits on this disjunction to get one
  have hst : c.st = .init ∨ c.st = .sleep ∨ c.st = .running ∨ c.st = .wait ∨ c.st = .terminated ∨ c.st = .zombee := by
    cases c.st <;> simp
  -- Label by label along the `if`s of `step`, down to `none` or one record update under its guards: much cheaper
  -- than taking `hs` apart, and the fields of `c` are never named.
  cases l <;> dsimp only [step] <;>
    along_ifs dsimp only [Tok, Cfg.RO, Cfg.fin]; grind [TokAt]

theorem step_inv (c c' : Cfg) (l : Lbl) (h : Inv c) (hs : step true c l = some c') : Inv c' :=
  (inv_iff_tok c').2 (step_tok c l c' ((inv_iff_tok c).1 h) hs)

theorem Inv.tok {c : Cfg} (h : Inv c) : Tok c := (inv_iff_tok c).1 h

/-- **The owner token**: the spawner, the runner-side owner, a killer about to finalise and the elected finaliser
    exclude one another. -/
theorem Inv.token {c : Cfg} (h : Inv c) : c.i0 + c.i1 + c.RO + c.k2 + c.fin ≤ 1 := by
  have := h.tok.2.2.2
  cases hst : c.st <;> simp only [hst, TokAt] at this <;> omega

theorem Inv.tm_le {c : Cfg} (h : Inv c) : c.tm ≤ c.terms := h.tok.1

theorem Inv.conservation {c : Cfg} (h : Inv c) : c.accepted = c.handled + c.mail := h.tok.2.2.1

/-- a runner whose CAS running→sleep can fail has been killed -/
theorem Inv.casSleep_st {c : Cfg} (h : Inv c) (h3 : c.r3 ≠ 0) : c.st = .running ∨ c.st = .zombee := by
  have := h.tok.2.2.2
  unfold Cfg.RO at this
  cases hst : c.st <;> simp only [hst, TokAt] at this <;> first | omega | simp

/-- somebody will look at the mailbox: a sleeping process with mail has a thread between its push and
    its wake-up attempt, or a runner between its CAS to sleep and its re-check. The second clause is what
    `C02_init_window` needs: a process is left in `init` only by a failed ProcessInit. -/
def InvW (c : Cfg) : Prop :=
  (c.st = .sleep → c.mail > 0 → c.s2 + c.w0 + c.r4 + c.r5 ≥ 1) ∧
  (c.st = .init → c.initFailed = false → c.i0 + c.i1 = 1)

theorem invW_init : InvW init := by
  unfold InvW init; simp

theorem step_invW (kz : Bool) (c : Cfg) (l : Lbl) (c' : Cfg) (hw : InvW c) (hs : step kz c l = some c') : InvW c' := by
  revert c'
  unfold InvW at hw
  cases l <;> dsimp only [step] <;>
    along_ifs dsimp only [InvW]; grind

/-- the reason handed to ProcessTerminate has a cause that occurred -/
def InvR (c : Cfg) : Prop :=
  ((c.st = .zombee ∨ c.k1 ≥ 1 ∨ c.k2 ≥ 1 ∨ c.rk ≥ 1 ∨ c.fK ≥ 1 ∨ c.why = some .kill) → c.sawKill = true) ∧
  ((c.re ≥ 1 ∨ c.fE ≥ 1 ∨ c.why = some .err) → c.sawErr = true) ∧
  ((c.rp ≥ 1 ∨ c.fP ≥ 1 ∨ c.why = some .panic) → c.sawPanic = true)

theorem invR_init : InvR init := by
  unfold InvR init; simp

/-- `InvR` needs one fact about the state word: the failing CAS of `casSleep` is the only step that attributes a
    termination to a kill it has not seen itself (`hk` is `Inv.casSleep_st`) -/
theorem step_invR (kz : Bool) (c : Cfg) (l : Lbl) (c' : Cfg) (hk : c.r3 ≠ 0 → c.st = .running ∨ c.st = .zombee)
    (hr : InvR c) (hs : step kz c l = some c') : InvR c' := by
  revert c'
  unfold InvR at hr
  cases l <;> dsimp only [step] <;>
    along_ifs dsimp only [InvR]; grind

structure InvAll (c : Cfg) : Prop where
  inv : Inv c
  wake : InvW c
  reason : InvR c

theorem run_invAll {c c' : Cfg} {ls : List Lbl} (h : InvAll c) (hr : run (step true) c ls = some c') : InvAll c' :=
  run_inv (Inv := InvAll) (fun c l c' h hs =>
    ⟨step_inv c c' l h.inv hs, step_invW true c l c' h.wake hs, step_invR true c l c' h.inv.casSleep_st h.reason hs⟩) h hr

theorem reach_invAll {c : Cfg} (h : Reach true c) : InvAll c :=
  h.elim fun _ hr => run_invAll ⟨inv_init, invW_init, invR_init⟩ hr

theorem step_fin_le (kz : Bool) (c : Cfg) (l : Lbl) :
    ∀ c', step kz c l = some c' → c.fin ≤ c'.fin ∧ c.terms ≤ c'.terms := by
  cases l <;> dsimp only [step] <;>
    along_ifs dsimp only [Cfg.fin]; omega

theorem run_fin_le {kz : Bool} {c c' : Cfg} {ls : List Lbl} (hr : run (step kz) c ls = some c') :
    c.fin ≤ c'.fin ∧ c.terms ≤ c'.terms :=
  run_inv (Inv := fun s => c.fin ≤ s.fin ∧ c.terms ≤ s.terms)
    (fun s l s' h hs => have := step_fin_le kz s l s' hs; ⟨Nat.le_trans h.1 this.1, Nat.le_trans h.2 this.2⟩)
    ⟨Nat.le_refl _, Nat.le_refl _⟩ hr

theorem elected_final {c c' : Cfg} {ls : List Lbl} (h : Reach true c) (hf : 1 ≤ c.fin)
    (hr : run (step true) c ls = some c') :
    c'.i0 + c'.i1 + c'.RO + c'.k2 = 0 ∧ c'.fin = 1 ∧ c.terms ≤ c'.terms := by
  have := (run_invAll (reach_invAll h) hr).inv.token
  have := run_fin_le hr
  omega

end ErgoVerif.Proc
