import ErgoVerif.Model.Meta
/-! The invariant of the meta-process state word (`Model/Meta.lean`, node/meta.go) for the code with the hand-off: `Inv`, and
the same as a function of the word (`Tok`), over which the steps are swept. -/
namespace ErgoVerif.Meta

/-- the invariant of the protocol with the hand-off (`ho = true`). `pend = 1`: `Start` is over and has left the
    termination to the handler goroutine that owns the word; then that goroutine exists and `Terminate` has not run
    (clause for `terminated`). The last clause is "no lost wake-up". -/
def Inv (c : Cfg) : Prop :=
  c.h1 + c.r0 + c.rb + c.r3 + c.rE ≤ 1 ∧ c.tmS + c.tmH ≤ c.terms ∧ c.terms ≤ 1 ∧
  c.a0 + c.a1 + c.a2 ≤ 1 ∧ c.pend ≤ 1 ∧
  (c.st = .zero → c.a0 = 1 ∧ c.h1 + c.r0 + c.rb + c.r3 + c.rE = 0 ∧ c.terms = 0 ∧ c.r4 = 0 ∧ c.r5 = 0 ∧ c.pend = 0) ∧
  (c.st = .sleep → c.h1 + c.r0 + c.rb + c.r3 + c.rE = 0 ∧ c.terms = 0 ∧ c.pend = 0) ∧
  (c.st = .running → c.h1 + c.r0 + c.rb + c.r3 + c.rE = 1 ∧ c.terms = 0 ∧ c.pend = 0) ∧
  (c.st = .terminated → c.terms + c.pend = 1 ∧ c.h1 + c.r0 + c.rb + c.r3 + c.rE = c.pend) ∧
  (c.tmS + c.tmH ≥ 1 → c.h1 + c.r0 + c.rb + c.r3 + c.rE = 0) ∧
  (c.terms = 1 → c.st = .terminated) ∧
  (c.st ≠ .zero → c.a0 = 0) ∧
  (c.st = .sleep → c.mail > 0 → c.h0 + c.r4 + c.r5 ≥ 1)

theorem inv_init : Inv init := by simp [Inv, init]

/-- `Inv` read by the value of the state word (`a` = `a1 + a2`, `ro` the handler-side owners, `tm` = `tmS + tmH`,
    `look` the no-lost-wake-up clause); the clauses of `Inv` for `tmS + tmH ≥ 1` and `terms = 1` follow from these. -/
def TokAt (a0 a ro terms tm pend r4 r5 : Nat) (look : Prop) : St → Prop
  | .zero => a0 = 1 ∧ a = 0 ∧ ro = 0 ∧ terms = 0 ∧ tm = 0 ∧ pend = 0 ∧ r4 = 0 ∧ r5 = 0
  | .sleep => a0 = 0 ∧ a ≤ 1 ∧ ro = 0 ∧ terms = 0 ∧ tm = 0 ∧ pend = 0 ∧ look
  | .running => a0 = 0 ∧ a ≤ 1 ∧ ro = 1 ∧ terms = 0 ∧ tm = 0 ∧ pend = 0
  | .terminated => a0 = 0 ∧ a ≤ 1 ∧ terms + pend = 1 ∧ ro = pend ∧ tm ≤ terms

def Tok (c : Cfg) : Prop :=
  TokAt c.a0 (c.a1 + c.a2) (c.h1 + c.r0 + c.rb + c.r3 + c.rE) c.terms (c.tmS + c.tmH) c.pend c.r4 c.r5
    (c.mail > 0 → c.h0 + c.r4 + c.r5 ≥ 1) c.st

theorem inv_iff_tok (c : Cfg) : Inv c ↔ Tok c := by
  unfold Inv Tok
  generalize c.h1 + c.r0 + c.rb + c.r3 + c.rE = ro
  cases c.st <;> grind [TokAt]

/-- the sweep is over `Tok`, where one value of the word selects one clause of the hypothesis and of the goal -/
theorem step_tok (c : Cfg) (l : Lbl) (c' : Cfg) (h : Tok c) (hs : step true c l = some c') : Tok c' := by
  revert c'
  unfold Tok at h
  -- `TokAt … c.st` unfolds only at a constructor: `grind` splits on this disjunction to get one
  have hst : c.st = .zero ∨ c.st = .sleep ∨ c.st = .running ∨ c.st = .terminated := by cases c.st <;> simp
  cases l <;> dsimp only [step] <;> along_ifs dsimp only [Tok]; grind [TokAt]

theorem step_inv (c : Cfg) (l : Lbl) (c' : Cfg) (h : Inv c) (hs : step true c l = some c') : Inv c' :=
  (inv_iff_tok c').2 (step_tok c l c' ((inv_iff_tok c).1 h) hs)

theorem Inv.tok {c : Cfg} (h : Inv c) : Tok c := (inv_iff_tok c).1 h

theorem Inv.terms_final {c : Cfg} (h : Inv c) (ht : c.terms = 1) : c.st = .terminated := by
  have := h.tok
  cases hst : c.st <;> simp only [Tok, hst, TokAt] at this <;> first | rfl | omega

theorem Inv.someone_will_look {c : Cfg} (h : Inv c) (hs : c.st = .sleep) (hm : c.mail > 0) :
    c.h0 + c.r4 + c.r5 ≥ 1 := by
  have := h.tok
  simp only [Tok, hs, TokAt] at this
  omega

theorem reach_inv {c : Cfg} (h : Reach true c) : Inv c := by
  obtain ⟨ls, hr⟩ := h
  exact run_inv (Inv := Inv) step_inv inv_init hr

end ErgoVerif.Meta
