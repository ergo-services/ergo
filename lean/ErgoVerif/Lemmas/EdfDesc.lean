import ErgoVerif.Lemmas.Edf
/-! Type descriptors: what `encTy` writes is unfolded back by `decTy` / `getDecoder` (`decTy_encTy`,
    `getDecoder_hdr`), and what any descriptor at all can unfold to (`Unfolds`). -/
namespace ErgoVerif.Edf
open ErgoVerif.Generated.Edt

def Ty.composite : Ty → Bool
  | .slice _ | .array _ _ | .map _ _ => true
  | _ => false

/-- descriptors that insist on ending the fold: slices and maps (and arrays of them) -/
def Ty.closed : Ty → Bool
  | .slice _ | .map _ _ => true
  | .array _ t => t.closed
  | _ => false

theorem Ty.closed_of_comparable (t : Ty) : t.comparable = true → t.closed = false := by
  fun_induction Ty.closed t <;> simp_all [Ty.comparable]

def RegOK (o : Opts) (nm : Bytes) (t : Ty) : Prop := o.reg nm = some t ∧ nm.length ≤ 4095

/-- what it takes for the descriptor of the type to unfold back to the type (`decTy_encTy`) -/
def DescOK (o : Opts) : Ty → Prop
  | .slice t => DescOK o t
  | .array n t => n < 4294967296 ∧ ¬ (t.size > 0 ∧ n * t.size ≥ uintptrLimit) ∧ DescOK o t
  | .map k v => k.comparable = true ∧ DescOK o k ∧ DescOK o v
  | .named nm t => RegOK o nm (.named nm t)
  | .struct nm fs => RegOK o nm (.struct nm fs)
  | .marsh nm sz => RegOK o nm (.marsh nm sz)
  | _ => True

/-- nesting of the descriptor `encTy` writes: a registered type is a leaf here (its descriptor is its name), unlike
    in the model's `Ty.depth`; `Val.depth` (EdfEnc) is the nesting of a value -/
def Ty.ddepth : Ty → Nat
  | .slice t => t.ddepth + 1
  | .array _ t => t.ddepth + 1
  | .map k v => max k.ddepth v.ddepth + 1
  | _ => 1

theorem Ty.ddepth_pos (t : Ty) : 0 < t.ddepth := by cases t <;> simp [Ty.ddepth]

theorem ddepth_le (o : Opts) : (t : Ty) → t.ddepth ≤ (encTy o t).length
  | .slice t => by have := ddepth_le o t; simp [Ty.ddepth, encTy]; omega
  | .array n t => by have := ddepth_le o t; simp [Ty.ddepth, encTy]; omega
  | .map k v => by have := ddepth_le o k; have := ddepth_le o v; simp [Ty.ddepth, encTy]; omega
  | .named _ _ | .struct _ _ | .marsh _ _ => by simp [Ty.ddepth, encTy, regPrefix]; split <;> simp
  | .bool | .num _ | .str | .bin | .atom | .idr _ | .idn _ | .time | .error | .any => by simp [Ty.ddepth, encTy]

theorem getReg_regPrefix (o : Opts) (hc : CachesConsistent o) (nm : Bytes) (t : Ty) (h : RegOK o nm t) (f : Bytes) :
    ∃ tl, regPrefix o nm = edtReg :: tl ∧ getReg o (tl ++ f) = .ok (t, f) := by
  obtain ⟨hr, hl⟩ := h
  unfold regPrefix
  cases hid : o.regId nm with
  | some id =>
    obtain ⟨h1, h2, h3⟩ := hc.reg _ _ hid
    refine ⟨be16 id, rfl, ?_⟩
    unfold getReg
    rw [rd16_be16 _ h2]
    simp [h1, h3, hr]
  | none =>
    refine ⟨be16 nm.length ++ nm, rfl, ?_⟩
    unfold getReg
    rw [List.append_assoc, rd16_be16 _ (by omega)]
    have : ¬ nm.length > limRegIdDec := by simp [limRegIdDec]; omega
    simp [this, hr]

theorem tagTy_leaf (t : Ty) (tag : UInt8) (h : t.leafTag = some tag) : tagTy tag = some t := by
  cases t <;> simp [Ty.leafTag] at h <;> subst h
  case num p => cases p <;> decide
  case idr k => cases k <;> decide
  case idn k => cases k <;> decide
  all_goals decide

/-- the byte-tag table has none of the bytes that `decTy` and `getDecoder` test for before they look into it -/
theorem tagTy_ne {b : UInt8} {t : Ty} (h : tagTy b = some t) :
    b ≠ edtMap ∧ b ≠ edtSlice ∧ b ≠ edtArray ∧ b ≠ edtReg ∧ b ≠ edtType ∧ b ≠ edtNil := by
  refine ⟨?_, ?_, ?_, ?_, ?_, ?_⟩ <;> rintro rfl <;> cases h

section
variable {o : Opts} {n : Nat} {r f : Bytes} {t k v : Ty}

theorem decTy_slice (h : decTy o n r = .ok (t, [])) : decTy o (n + 1) (edtSlice :: r) = .ok (.slice t, []) := by
  simp +decide [decTy, h]

theorem decTy_map (hk : decTy o n r = .ok (k, f)) (hv : decTy o n f = .ok (v, [])) (hc : k.comparable = true) :
    decTy o (n + 1) (edtMap :: r) = .ok (.map k v, []) := by
  simp [decTy, hk, hv, hc]

theorem decTy_array {m : Nat} (hm : m < 4294967296) (hs : ¬ (t.size > 0 ∧ m * t.size ≥ uintptrLimit))
    (h : decTy o n r = .ok (t, f)) : decTy o (n + 1) (edtArray :: be32 m ++ r) = .ok (.array m t, f) := by
  have : ¬ (be32 m ++ r).length < 5 := by
    cases r with
    | nil => cases n <;> cases h
    | cons => simp; omega
  simp +decide only [decTy, ↓reduceIte, List.cons_append, lenLt_eq, decide_eq_true_eq, this, rd32_be32 _ hm, h, hs]

theorem decTy_reg : decTy o (n + 1) (edtReg :: r) = getReg o r := by
  simp +decide only [decTy, ↓reduceIte]

theorem decTy_tag {b : UInt8} (h : tagTy b = some t) : decTy o (n + 1) (b :: r) = .ok (t, r) := by
  obtain ⟨h1, h2, h3, h4, -⟩ := tagTy_ne h
  simp [decTy, h, h1, h2, h3, h4]

end

/-- unfolding the descriptor of a type gives the type back and returns what follows it (nothing may follow a
    closed descriptor) -/
theorem decTy_encTy (o : Opts) (hc : CachesConsistent o) (t : Ty) (f : Bytes) (fuel : Nat)
    (hd : DescOK o t) (hf : t.ddepth ≤ fuel) (hcf : t.closed = true → f = []) :
    decTy o fuel (encTy o t ++ f) = .ok (t, if t.closed then [] else f) := by
  obtain ⟨n, rfl⟩ : ∃ n, fuel = n + 1 := Nat.exists_eq_succ_of_ne_zero (by have := t.ddepth_pos; omega)
  match t, hd, hf, hcf with
  | .slice t, hd, hf, hcf =>
    cases hcf rfl
    have h := decTy_encTy o hc t [] n hd (by simp only [Ty.ddepth] at hf; omega) (fun _ => rfl)
    rw [ite_self] at h
    exact decTy_slice h
  | .array k t, ⟨hk, hs, hd⟩, hf, hcf =>
    have h := decTy_encTy o hc t f n hd (by simp only [Ty.ddepth] at hf; omega) hcf
    simp only [encTy, List.cons_append, List.append_assoc]
    exact decTy_array hk hs h
  | .map k v, ⟨hcmp, hdk, hdv⟩, hf, hcf =>
    cases hcf rfl
    simp only [Ty.ddepth] at hf
    have hk := decTy_encTy o hc k (encTy o v ++ []) n hdk (by omega) (by simp [Ty.closed_of_comparable k hcmp])
    have hv := decTy_encTy o hc v [] n hdv (by omega) (fun _ => rfl)
    rw [Ty.closed_of_comparable k hcmp] at hk
    rw [ite_self] at hv
    simp only [encTy, List.cons_append, List.append_assoc]
    exact decTy_map hk hv hcmp
  | .named nm _, hd, hf, hcf | .struct nm _, hd, hf, hcf | .marsh nm _, hd, hf, hcf =>
    obtain ⟨tl, h1, h2⟩ := getReg_regPrefix o hc nm _ hd f
    simp only [encTy, h1, List.cons_append]
    exact decTy_reg.trans h2
  | .any, hd, hf, hcf => exact decTy_tag (by decide)
  | .bool, _, hf, _ | .str, _, hf, _ | .bin, _, hf, _ | .atom, _, hf, _ | .time, _, hf, _ | .error, _, hf, _
  | .num _, _, hf, _ | .idr _, _, hf, _ | .idn _, _, hf, _ => exact decTy_tag (tagTy_leaf _ _ rfl)

theorem getDecoder_tag (o : Opts) {b : UInt8} {t : Ty} (h : tagTy b = some t) (dt : Bool) (body : Bytes) :
    getDecoder o dt (b :: body) = .ok (some t, body, false) := by
  obtain ⟨-, -, -, h4, h5, h6⟩ := tagTy_ne h
  simp [getDecoder, h, h4, h5, h6]

theorem getDecoder_hdr (o : Opts) (hc : CachesConsistent o) (t : Ty) (hd : DescOK o t) (hl : (encTy o t).length < 65536)
    (dt : Bool) (body : Bytes) :
    getDecoder o dt (hdr o t ++ body) = .ok (some t, body, if t.composite then dt else false) := by
  cases t with
  | slice _ | array _ _ | map _ _ =>
    -- behind `edtType` and its length `decTy` is handed the descriptor alone, and that length for fuel
    have h := decTy_encTy o hc _ [] _ hd (Nat.le_succ_of_le (ddepth_le o _)) (fun _ => rfl)
    rw [List.append_nil] at h
    simp +decide only [hdr, List.cons_append, List.append_assoc, getDecoder, ↓reduceIte, rd16_be16 _ hl]
    simp [h, Ty.composite]
  | named nm _ | struct nm _ | marsh nm _ =>
    obtain ⟨tl, h1, h2⟩ := getReg_regPrefix o hc nm _ hd body
    simp [hdr, encTy, h1, getDecoder, h2, Ty.composite]
  | any => exact getDecoder_tag o (by decide) dt body
  | bool | str | bin | atom | time | error | num _ | idr _ | idn _ =>
    exact getDecoder_tag o (tagTy_leaf _ _ rfl) dt body

/-- what the decoder can take for the type of a value: an entry of the byte-tag table or of the registry, or a slice,
    array or map type built from such by `decodeType` (with reflect's conditions on arrays and map keys) -/
inductive Unfolds (o : Opts) : Ty → Prop
  | tag {t : Ty} (b : UInt8) : tagTy b = some t → Unfolds o t
  | reg {t : Ty} (nm : Bytes) : o.reg nm = some t → Unfolds o t
  | slice {t : Ty} : Unfolds o t → Unfolds o (.slice t)
  | array {t : Ty} {n : Nat} : n < 4294967296 → ¬ (t.size > 0 ∧ n * t.size ≥ uintptrLimit) → Unfolds o t → Unfolds o (.array n t)
  | map {k v : Ty} : k.comparable = true → Unfolds o k → Unfolds o v → Unfolds o (.map k v)

/-- what holds of every entry of the byte-tag table holds of what `tagTy` finds there -/
theorem tagTy_of_table {P : Ty → Prop} (hP : ∀ e ∈ tagTable, P e.2) {b : UInt8} {t : Ty} (h : tagTy b = some t) : P t := by
  simp only [tagTy, Option.map_eq_some_iff] at h
  obtain ⟨e, he, rfl⟩ := h
  exact hP e (List.mem_of_find?_eq_some he)

theorem getReg_ok {o : Opts} {bs : Bytes} {t : Ty} {r : Bytes} : getReg o bs = .ok (t, r) →
    Unfolds o t ∧ r.length ≤ bs.length := by
  fun_cases getReg o bs <;> intro h <;> cases h
  · obtain ⟨_, hl⟩ := rd16_ok _ _ _ ‹_›
    exact ⟨.reg _ ‹_›, by omega⟩
  · obtain ⟨_, hl⟩ := rd16_ok _ _ _ ‹_›
    exact ⟨.reg _ ‹_›, by simp; omega⟩

theorem decTy_ok {o : Opts} {f : Nat} {bs : Bytes} {t : Ty} {r : Bytes} : decTy o f bs = .ok (t, r) → Unfolds o t := by
  fun_induction decTy o f bs generalizing t r <;> intro h <;> first | exact (getReg_ok h).1 | cases h
  · rename_i ihk ihv
    exact .map (by simpa using ‹¬ (!_) = true›) (ihk ‹_›) (ihv ‹_›)
  · rename_i ih; exact .slice (ih ‹_›)
  · rename_i ih; exact .array (rd32_ok _ _ _ ‹_›).1 ‹_› (ih ‹_›)
  · exact .tag _ ‹_›

theorem getDecoder_ok {o : Opts} {dt : Bool} {bs : Bytes} {ot : Option Ty} {r : Bytes} {dt' : Bool} :
    getDecoder o dt bs = .ok (ot, r, dt') → (∀ t, ot = some t → Unfolds o t) ∧ r.length < bs.length := by
  fun_cases getDecoder o dt bs <;> intro h <;> cases h
  · obtain ⟨h1, h2⟩ := getReg_ok ‹_›
    exact ⟨fun _ e => Option.some.inj e ▸ h1, by simp; omega⟩
  · obtain ⟨_, hl⟩ := rd16_ok _ _ _ ‹_›
    exact ⟨fun _ e => Option.some.inj e ▸ decTy_ok ‹_›, by simp; omega⟩
  · exact ⟨nofun, by simp⟩
  · exact ⟨fun _ e => Option.some.inj e ▸ .tag _ ‹_›, by simp⟩

end ErgoVerif.Edf
