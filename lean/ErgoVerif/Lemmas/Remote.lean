/-
Composition of the three link-level models: the frame writers (`Frame.encode`), the byte stream under
an arbitrary segmentation and the reassembling reader (`Stream.readAll`), and the receive cases
(`Frame.kindOf` / `Frame.parse`).

`LayoutOK` alone does NOT make the first eight bytes what the reader expects (it only asks for *some*
write named "magic"/"version"/"len"/"type" at the right place, possibly conditional, and it allows a
flag to be OR-ed into a one-byte field such as the magic byte): see `encode_wf_counterexample`.
The extra decidable condition is `HeaderOK`; it holds for all generated wire kinds (`headerOK_wire`).
-/
import ErgoVerif.ListFacts
import ErgoVerif.Lemmas.Envelope
import ErgoVerif.Lemmas.Stream
import ErgoVerif.Model.StreamLink
namespace ErgoVerif.Remote
open ErgoVerif.Generated.Proto ErgoVerif.Frame

/-- a plain, unconditional write of the field `n` at `o`, `w` bytes wide -/
def fixedAt (k : Kind) (n : String) (o w : Nat) : Prop :=
  ∃ x ∈ k.writes, x.off = o ∧ x.width = w ∧ x.mask = 0 ∧ x.name = n ∧ x.cond = ""

instance (k : Kind) (n : String) (o w : Nat) : Decidable (fixedAt k n o w) := by unfold fixedAt; infer_instance

/-- the message type fits its byte, the four fixed header fields are written unconditionally as plain fields and
    no flag is OR-ed into the first eight bytes -/
def HeaderOK (k : Kind) : Prop :=
  k.typ < 256 ∧ fixedAt k "len" 2 4 ∧ fixedAt k "magic" 0 1 ∧ fixedAt k "version" 1 1 ∧ fixedAt k "type" 7 1 ∧
  ∀ w ∈ k.writes, w.mask = 0 ∨ 8 ≤ w.off

instance (k : Kind) : Decidable (HeaderOK k) := by unfold HeaderOK; infer_instance

theorem HeaderOK.typ_lt {k : Kind} (hh : HeaderOK k) : k.typ < 256 := hh.1

theorem headerOK_wire : ∀ k ∈ wireKinds, HeaderOK k := by decide

theorem layoutOK_wire : ∀ k ∈ wireKinds, LayoutOK k = true := by decide

/-- `binary.BigEndian.Uint32(buf.B[2:6])` of the reader is the generic big-endian value of that window -/
theorem lenField_eq_beVal (b : List UInt8) (h : 6 ≤ b.length) :
    ErgoVerif.Stream.lenField b = beVal (win b 2 4) := by
  match b, h with
  | a :: b :: c :: d :: e :: g :: t, _ => simp [ErgoVerif.Stream.lenField, beVal, win]

open ErgoVerif.Envelope in
/-- so the reader theorems apply to envelopes too -/
theorem envelope_lenField (cd : Codec) (t : Nat) (f : Bytes)
    (hl : zPreallocate + 4 + (cd.comp t f).length < 2 ^ 32) :
    ErgoVerif.Stream.lenField (envelope cd t f) = (envelope cd t f).length := by
  have h4 : win (envelope cd t f) 2 4 = beBytes 4 (zPreallocate + 4 + (cd.comp t f).length) := by
    rw [envelope_eq]; exact List.take_left' (beBytes_length 4 _)
  rw [lenField_eq_beVal _ (by have := (envelope_guards cd t f).1; omega), h4,
    beVal_beBytes 4 _ (by simpa using hl), envelope_length]

theorem hdr_fixed (k : Kind) (hl : Lay k) (hall : ∀ y ∈ k.writes, y.mask = 0 ∨ 8 ≤ y.off) (m : Msg) (hf : m.fits k)
    (n : String) (o w : Nat) (how : o + w ≤ 8) (hw : w ≠ 0) (hany : fixedAt k n o w) :
    o + w ≤ k.alloc ∧ fieldVal k m (hdrLen k m + m.payload.length) n < 256 ^ w ∧
    win (encode k m) o w = beBytes w (fieldVal k m (hdrLen k m + m.payload.length) n) := by
  obtain ⟨x, hx, rfl, rfl, e4, rfl, e5⟩ := hany
  have hxp : x ∈ plainWrites k := (mem_plainWrites k x).2 ⟨hx, e4, hw⟩
  exact ⟨hl.inAlloc x hxp, hf.1 x hxp, enc_plain k hl m x hxp (by simp [condOn, e5])
    (fun y hy hmy hyo => by rcases hall y hy with h | h <;> omega)⟩

/-- the header of a written frame: the reader accepts the frame, and its type byte is the kind's -/
theorem encode_header (k : Kind) (hk : LayoutOK k = true) (hh : HeaderOK k) (m : Msg) (hf : m.fits k) :
    (∀ max, (max > 0 → (encode k m).length ≤ max) → ErgoVerif.Stream.WF (ErgoVerif.Stream.linkCfg max) (encode k m)) ∧
    (encode k m)[7]? = some (UInt8.ofNat k.typ) := by
  have hl := layout_unpack k hk
  have hlen := encode_length k hl m
  obtain ⟨_, al, am, av, at_, hall⟩ := hh
  have byte : ∀ n o, o + 1 ≤ 8 → fixedAt k n o 1 →
      (encode k m)[o]? = some (UInt8.ofNat (fieldVal k m (hdrLen k m + m.payload.length) n)) := fun n o ho h =>
    win_one_get _ _ _ (beBytes_one _ ▸ (hdr_fixed k hl hall m hf n o 1 ho (by decide) h).2.2)
  have h0 := fieldVal_magic k m _ ▸ byte "magic" 0 (by decide) am
  have h1 := fieldVal_version k m _ ▸ byte "version" 1 (by decide) av
  obtain ⟨_, fl, wl⟩ := hdr_fixed k hl hall m hf "len" 2 4 (by decide) (by decide) al
  rw [fieldVal_len] at wl fl
  have h8 : 8 ≤ (encode k m).length := by
    have := (hdr_fixed k hl hall m hf "type" 7 1 (by decide) (by decide) at_).1
    have := alloc_le_hdrLen k m
    omega
  refine ⟨fun max hmax => ⟨h8, ?_, hmax, ErgoVerif.Stream.linkCfg_minLen max ▸ h8, ?_⟩,
    fieldVal_type k m _ ▸ byte "type" 7 (by decide) at_⟩
  · rw [lenField_eq_beVal _ (by omega), wl, hlen]
    exact beVal_beBytes _ _ fl
  · obtain ⟨x, h6⟩ : ∃ x, (encode k m)[6]? = some x := ⟨(encode k m)[6]'(by omega), by simp⟩
    have e0 : (UInt8.ofNat protoMagic).toNat = protoMagic := by decide
    have e1 : (UInt8.ofNat protoVersion).toNat = protoVersion := by decide
    simp [ErgoVerif.Stream.serveCheck, ErgoVerif.Stream.linkCfg, h0, h1, h6, e0, e1]

/-- for the generated wire kinds both checks hold by evaluation -/
theorem encode_wf_wire (k : Kind) (hw : k ∈ wireKinds) (m : Msg) (hf : m.fits k) (max : Nat)
    (hmax : max > 0 → (encode k m).length ≤ max) :
    ErgoVerif.Stream.WF (ErgoVerif.Stream.linkCfg max) (encode k m) :=
  (encode_header k (layoutOK_wire k hw) (headerOK_wire k hw) m hf).1 max hmax

theorem encode_type_wire (k : Kind) (hw : k ∈ wireKinds) (m : Msg) (hf : m.fits k) :
    (encode k m)[7]? = some (UInt8.ofNat k.typ) :=
  (encode_header k (layoutOK_wire k hw) (headerOK_wire k hw) m hf).2

theorem kinds_typ_nodup : (kinds.map (·.typ)).Nodup := by decide

theorem kindOf_typ (k : Kind) (hk : k ∈ kinds) : kindOf k.typ = some k :=
  find?_of_nodup_key Kind.typ kinds kinds_typ_nodup k hk

/-- dispatch: the type byte of a written frame selects the receive case of the kind that wrote it -/
theorem dispatch_wire (k : Kind) (hw : k ∈ wireKinds) (m : Msg) (hf : m.fits k) :
    (match (encode k m)[7]? with
      | some t => (kindOf t.toNat).map (fun k' => parse k' (encode k m))
      | none => none) = some (parse k (encode k m)) := by
  rw [encode_type_wire k hw m hf]
  simp only [UInt8.toNat_ofNat_of_lt' (headerOK_wire k hw).typ_lt, kindOf_typ k (List.mem_filter.1 hw).1, Option.map_some]

/-- writer ∘ stream ∘ receive case.  For every list of messages, every receiver limit and every way the concatenated
    frames are cut into chunks: the frames are ones the reader accepts (`encode_wf_wire`), so it hands over exactly
    them, in order, and stays open with nothing left over (`Stream.segmentation`); each is dispatched to the receive case
    of the kind that wrote it (`dispatch_wire`), which recovers payload, name and header fields (`parse_encode`).  The
    layout check and the 32-bit length bound among the hypotheses are not used: the first holds of every wire kind,
    the second is part of `fits` (the length field is a plain write). -/
theorem pipeline (max : Nat) (hmax : max = 0 ∨ 8 ≤ max) (sent : List (Kind × Msg))
    (hk : ∀ km ∈ sent, km.1 ∈ wireKinds ∧ LayoutOK km.1 = true ∧ km.2.fits km.1 ∧
          (max > 0 → (encode km.1 km.2).length ≤ max) ∧ (encode km.1 km.2).length < 2 ^ 32)
    (chunks : List (List UInt8))
    (hj : chunks.flatten = (sent.map (fun km => encode km.1 km.2)).flatten) :
    let out := ErgoVerif.Stream.readAll (ErgoVerif.Stream.linkCfg max) ErgoVerif.Stream.RState.init chunks
    out.1 = ⟨[], none⟩ ∧
    out.2 = sent.map (fun km => encode km.1 km.2) ∧
    ∀ km ∈ sent, ∃ p, (match (encode km.1 km.2)[7]? with
                        | some t => (kindOf t.toNat).map (fun k => parse k (encode km.1 km.2))
                        | none => none) = some (.ok p) ∧
                      p.payload = km.2.payload ∧
                      p.name = (if km.1.inlineName then km.2.name else []) ∧
                      ∀ x ∈ expectedFields km.1 km.2, x ∈ p.fields := by
  intro out
  have hseg : out = (⟨[], none⟩, sent.map (fun km => encode km.1 km.2)) := by
    apply ErgoVerif.Stream.segmentation (ErgoVerif.Stream.linkCfg max) hmax _ chunks _ hj
    intro f hf
    obtain ⟨km, hkm, rfl⟩ := List.mem_map.1 hf
    obtain ⟨hw, _, hfit, hm, _⟩ := hk km hkm
    exact encode_wf_wire km.1 hw km.2 hfit max hm
  refine ⟨by rw [hseg], by rw [hseg], fun km hkm => ?_⟩
  obtain ⟨hw, _, hf, _⟩ := hk km hkm
  obtain ⟨p, hp, r⟩ := parse_encode km.1 (layoutOK_wire km.1 hw) km.2 hf
  exact ⟨p, by rw [dispatch_wire km.1 hw km.2 hf, hp], r⟩

/-- a kind that passes `LayoutOK` but ORs the "important" flag into the magic byte -/
def badKind : Kind :=
  { name := "X", typ := 199, writer := "w", route := "", alloc := 8, inlineName := false,
    guard := 9, guard2 := 0, guardName := 0, payloadOff := 8, payloadName := false,
    earlyMax := false, incarnation := false, compress := false, recv := true,
    writes := [⟨"magic", 0, 1, 0, ""⟩, ⟨"version", 1, 1, 0, ""⟩, ⟨"len", 2, 4, 0, ""⟩, ⟨"order", 6, 1, 0, ""⟩,
               ⟨"type", 7, 1, 0, ""⟩, ⟨"important", 0, 1, 128, "important"⟩],
    reads := [] }

def badMsg : Msg := ⟨fun _ => 0, true, [], [0]⟩

theorem encode_wf_counterexample :
    LayoutOK badKind = true ∧ badMsg.fits badKind ∧
    ¬ ErgoVerif.Stream.WF (ErgoVerif.Stream.linkCfg 0) (encode badKind badMsg) := by
  refine ⟨by decide, ?_, by decide⟩
  unfold Msg.fits
  decide

end ErgoVerif.Remote
