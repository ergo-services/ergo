import ErgoVerif.Lemmas.SupLoop
import ErgoVerif.Lemmas.SupSlice
import ErgoVerif.Lemmas.SupOrder
import ErgoVerif.Lemmas.SupStep
/-
All/rest-for-one WITHOUT KeepOrder: well-formedness of the state machine, including the stopping mode
(every running child of the restart group is being waited for), is preserved by `childTerminated`; hence
`childForStart` always finds its spec and `childTerminated` never panics (the partial counterpart of D18); then the
closed system: as in `SupLoopOFO`, which this file follows lemma for lemma, except that a start also needs
`mode ≠ 2`, the stopping mode, and that `OFO.step_stable` (a shutdown is final) has no counterpart here.
With KeepOrder `childTerminated` can panic: `ARFO.panic_cases`, at the end, says what that means, for every state.
-/
namespace ErgoVerif.Sup

structure ARFO.WF (m : ARFO) : Prop where
  idx : ∀ (k : Nat) (c : ChildSpec), m.spec[k]? = some c → c.i = k
  next : m.i = m.spec.length
  ko : m.keeporder = false
  rI0 : m.rest = false → m.restartI = 0
  stop : m.mode = 2 → m.restartI ≤ m.spec.length ∧
    (∀ c, c ∈ m.spec.drop m.restartI → c.disabled = false → c.pid ≠ 0 → c.pid ∈ m.wait) ∧
    (∃ c, c ∈ m.spec.drop m.restartI ∧ c.disabled = false)

def ARFO.ValidStart (m : ARFO) (a : Action) : Prop := ∃ c : ChildSpec, m.spec[a.spec.i]? = some c ∧ c.name = a.spec.name

/-- `mode ≠ 2`: a start asked for in the stopping mode would be carried out by a `childStarted` that does not
re-establish the clause of that mode -/
def ARFO.GoodRes (m : ARFO) : Res → Prop := Res.Good fun a => a.act = .start → ARFO.ValidStart m a ∧ m.mode ≠ 2

theorem forStart_some (l : List ChildSpec) (h0 : ∀ c, c ∈ l → c.disabled = false → c.pid = 0)
    (hex : ∃ c, c ∈ l ∧ c.disabled = false) : ∃ c, ARFO.forStart l = some c ∧ c ∈ l := by
  fun_induction ARFO.forStart l
  case case1 => obtain ⟨c, hc, _⟩ := hex; cases hc
  case case2 a t hd ih =>
    obtain ⟨c, hc, hcd⟩ := hex
    rcases List.mem_cons.mp hc with rfl | hc
    · exact absurd hd (by simp [hcd])
    · obtain ⟨c', h1, h2⟩ := ih (fun c hc => h0 c (List.mem_cons_of_mem _ hc)) ⟨c, hc, hcd⟩
      exact ⟨c', h1, List.mem_cons_of_mem _ h2⟩
  case case3 a t hd hp => exact absurd (h0 a List.mem_cons_self (by simpa using hd)) hp
  case case4 a t _ _ => exact ⟨a, rfl, List.mem_cons_self⟩

theorem forTermination_mem (s : ARFO) (hko : s.keeporder = false) (p : Nat) :
    p ∈ (ARFO.childrenForTermination s).2 ↔ ∃ c, c ∈ s.spec.drop s.restartI ∧ stoppable c = true ∧ c.pid = p := by
  unfold ARFO.childrenForTermination
  simp only
  rw [forTermination_eq, hko]
  simp only [pick, Bool.false_eq_true, if_false, List.mem_reverse, List.mem_map, List.mem_filter]
  constructor
  · rintro ⟨c, ⟨hc, hs⟩, rfl⟩; exact ⟨c, hc, hs, rfl⟩
  · rintro ⟨c, hc, hs, rfl⟩; exact ⟨c, ⟨hc, hs⟩, rfl⟩

/-- "activate restart strategy", with the restart position and the stop list named -/
theorem ARFO.restartStep_eq (s : ARFO) (k : Nat) (r : Reason) :
    ARFO.restartStep s k r =
      let s1 : ARFO := { s with restartI := if s.rest then k else s.restartI }
      let t := (ARFO.childrenForTermination s1).2
      let s2 : ARFO := { s1 with wait := t.foldl (fun w p => sins p w) s.wait }
      if t.length = 0 then
        match ARFO.childForStart s1 with
        | none => (s2, .panic)
        | some c => ({ s2 with mode := 1 }, .ok { act := .start, spec := c })
      else ({ s2 with mode := 2 }, .ok { act := .terminateChildren, reason := some r, terminate := t }) := by
  rcases s with ⟨_, _ | _⟩ <;> rfl

/-- the clause `stop` of `ARFO.WF`, for any slice, restart position and wait set: the restart group (the specs from `rI`
on) has an enabled spec, and the child of every enabled spec in it is waited for -/
def ARFO.Stopping (l : List ChildSpec) (rI : Nat) (w : List Nat) : Prop :=
  rI ≤ l.length ∧ (∀ c, c ∈ l.drop rI → c.disabled = false → c.pid ≠ 0 → c.pid ∈ w) ∧
    ∃ c, c ∈ l.drop rI ∧ c.disabled = false

theorem ARFO.Stopping.scan {l : List ChildSpec} {rI : Nat} {w : List Nat} (h : ARFO.Stopping l rI w) (name pid : Nat) :
    ARFO.Stopping (scan name pid 0 l).spec rI (sdel pid w) := by
  obtain ⟨h1, h2, c0, hc0, hd0⟩ := h
  refine ⟨by rw [scan_length]; exact h1, ?_, ?_⟩
  · intro c' hc' hd hp
    obtain ⟨c, hc, rfl⟩ := (scan_drop_mem name pid l rI c').mp hc'
    cases hh : hit name pid c with
    | true => simp [hh] at hp
    | false =>
      simp only [hh, Bool.false_eq_true, if_false] at hd hp ⊢
      rw [mem_sdel]
      exact ⟨h2 c hc hd hp, (hit_false.mp hh).2⟩
  · refine ⟨_, (scan_drop_mem name pid l rI _).mpr ⟨c0, hc0, rfl⟩, ?_⟩
    split <;> exact hd0

/-- nobody is waited for any more: no enabled spec of the group has a child, so `childForStart` finds the first of them,
at its own index -/
theorem ARFO.Stopping.forStart {s : ARFO} (h : ARFO.Stopping s.spec s.restartI []) (hidx : Indexed s.spec) :
    ∃ c, ARFO.childForStart s = some c ∧ s.spec[c.i]? = some c := by
  obtain ⟨hle, h0, hex⟩ := h
  unfold ARFO.childForStart
  rw [if_neg (Nat.not_lt.mpr hle)]
  obtain ⟨c, hc1, hc2⟩ := forStart_some _
    (fun c hc hd => Decidable.byContradiction fun hp => nomatch h0 c hc hd hp) hex
  obtain ⟨j, hj⟩ := List.mem_iff_getElem?.mp (List.mem_of_mem_drop hc2)
  refine ⟨c, hc1, ?_⟩
  rw [hidx j c hj]; exact hj

theorem ARFO.wf_of_map {m m' : ARFO} (h : ARFO.WF m) (hm2 : m'.mode ≠ 2) (hi : m'.i = m.i)
    (hko : m'.keeporder = m.keeporder) (hrest : m'.rest = m.rest) (hrI : m'.restartI = m.restartI)
    (hs : m'.spec.map (·.i) = m.spec.map (·.i)) : ARFO.WF m' :=
  ⟨idx_of_map hs h.idx, by rw [hi, h.next]; simpa using (congrArg List.length hs).symm, hko ▸ h.ko,
    fun hr => hrI ▸ h.rI0 (hrest ▸ hr), fun hx => absurd hx hm2⟩

/-- what the closed system needs of the answer `r` to a method called in state `m` -/
def ARFO.Answer (m : ARFO) (r : ARFO × Res) : Prop :=
  ARFO.WF r.1 ∧ ARFO.GoodRes r.1 r.2 ∧ r.1.spec.length ≤ m.spec.length + 1

theorem ARFO.Answer.same {m : ARFO} {res : Res} (h : ARFO.WF m) (hg : ARFO.GoodRes m res) : ARFO.Answer m (m, res) :=
  ⟨h, hg, Nat.le_succ _⟩

theorem ARFO.Answer.of_len {s m : ARFO} {r : ARFO × Res} (h : ARFO.Answer s r) (hl : s.spec.length = m.spec.length) :
    ARFO.Answer m r :=
  ⟨h.1, h.2.1, hl ▸ h.2.2⟩

theorem ARFO.Quiet.good {s : ARFO} {r : ARFO × Res} (hq : ARFO.Quiet s r) (h : ARFO.WF s) : ARFO.Answer s r := by
  obtain ⟨hst, a, ha, hact⟩ := hq
  unfold ARFO.Answer
  rw [ha]
  rcases hst with e | ⟨w, sr, rs, e⟩ <;> rw [e]
  · exact ⟨h, fun hx => absurd hx hact, Nat.le_succ _⟩
  · exact ⟨ARFO.wf_of_map h (by simp) rfl rfl rfl rfl rfl, fun hx => absurd hx hact, Nat.le_succ _⟩

/-- the stopping mode without KeepOrder: wait for the rest of the group, or — nobody left — start its first enabled
spec -/
theorem ARFO.stoppingStep_good (s : ARFO) (k : Nat) (r : Reason) (hws : ARFO.WF s) (hm2 : s.mode = 2) :
    ARFO.Answer s (ARFO.stoppingStep s k r) := by
  unfold ARFO.stoppingStep
  rw [if_pos hws.ko]
  split
  · exact .same hws (by simp [ARFO.GoodRes, Res.Good])
  · rename_i hwl
    have hst : ARFO.Stopping s.spec s.restartI s.wait := hws.stop hm2
    rw [List.length_eq_zero_iff.mp (Nat.eq_zero_of_not_pos hwl)] at hst
    obtain ⟨c, hc1, hc2⟩ := ARFO.Stopping.forStart (s := { s with mode := 1 }) hst hws.idx
    unfold ARFO.startAfterStop
    simp only
    rw [hc1]
    exact ⟨⟨hws.idx, hws.next, hws.ko, fun _ => rfl, fun hx => by simp at hx⟩, fun _ => ⟨⟨c, hc2, rfl⟩, by simp⟩,
      Nat.le_succ _⟩

/-- "activate restart strategy" for the enabled spec at position `k`: the stop list is waited for, so the restart group
(which contains the spec at `k`) is being stopped; if the list is empty the first enabled spec of the group is started
instead -/
theorem ARFO.restartStep_good (s : ARFO) (k : Nat) (r : Reason) (spec : ChildSpec) (hws : ARFO.WF s)
    (hat : s.spec[k]? = some spec) (hdis : spec.disabled = false) : ARFO.Answer s (ARFO.restartStep s k r) := by
  rw [ARFO.restartStep_eq]
  simp only
  generalize hrI : (if s.rest then k else s.restartI) = rI
  have hle : rI ≤ k := by
    rw [← hrI]; split
    · exact Nat.le_refl _
    · rename_i hr; rw [hws.rI0 (by simpa using hr)]; exact Nat.zero_le _
  have hrI0 : s.rest = false → rI = 0 := fun hr => by rw [← hrI, hr]; exact hws.rI0 hr
  have hst : ∀ w, (∀ p, p ∈ (ARFO.childrenForTermination { s with restartI := rI }).2 → p ∈ w) →
      ARFO.Stopping s.spec rI w := fun w hw =>
    ⟨Nat.le_of_lt (Nat.lt_of_le_of_lt hle (List.getElem?_eq_some_iff.mp hat).1),
      fun c hc hd hp => hw _ ((forTermination_mem { s with restartI := rI } hws.ko _).mpr
        ⟨c, hc, stoppable_iff.mpr ⟨hd, hp⟩, rfl⟩),
      spec, List.mem_iff_getElem?.mpr ⟨k - rI, by rw [List.getElem?_drop, Nat.add_sub_of_le hle]; exact hat⟩,
      hdis⟩
  split
  · rename_i ht0
    obtain ⟨c, hc1, hc2⟩ := ARFO.Stopping.forStart (s := { s with restartI := rI })
      (hst [] fun p hp => by rwa [List.length_eq_zero_iff.mp ht0] at hp) hws.idx
    rw [hc1]
    exact ⟨⟨hws.idx, hws.next, hws.ko, hrI0, fun hx => by simp at hx⟩, fun _ => ⟨⟨c, hc2, rfl⟩, by simp⟩, Nat.le_succ _⟩
  · exact ⟨⟨hws.idx, hws.next, hws.ko, hrI0, fun _ => hst _ fun p hp => (mem_foldl_sins ..).mpr (Or.inr hp)⟩,
      by simp [ARFO.GoodRes, Res.Good], Nat.le_succ _⟩

theorem ARFO.ct_good (m : ARFO) (name pid : Nat) (r : Reason) (now : Int) (h : ARFO.WF m) :
    ARFO.Answer m (m.childTerminated name pid r now) := by
  by_cases hm3 : m.mode = 3
  · rw [ARFO.childTerminated_shut m name pid r now hm3]
    exact ⟨ARFO.wf_of_map h (by show m.mode ≠ 2; rw [hm3]; decide) rfl rfl rfl rfl rfl,
      by simp only [ARFO.GoodRes, Res.Good]; split <;> simp, Nat.le_succ _⟩
  have hlen := scan_length name pid m.spec
  -- the state after the scan is well-formed: in the stopping mode its clause survives the scan
  have hws : ARFO.WF { m with wait := sdel pid m.wait, spec := (scan name pid 0 m.spec).spec } :=
    ⟨idx_of_map (scan_map (·.i) (fun _ => rfl) name pid 0 m.spec) h.idx, by simp only; rw [hlen]; exact h.next, h.ko,
      h.rI0, fun hm2 => ARFO.Stopping.scan (h.stop hm2) name pid⟩
  rcases ARFO.childTerminated_cases m name pid r now hm3 with hq | ⟨k, c, hf, ⟨hm2, he⟩ | ⟨hm2, hdis, he⟩⟩
  · exact (hq.good hws).of_len hlen
  · rw [he]; exact (ARFO.stoppingStep_good _ k r hws hm2).of_len hlen
  · -- the failed spec sits, enabled and without a pid, at position `k` of the scanned slice
    rw [he]
    exact .of_len
      (ARFO.restartStep_good _ k r c (ARFO.wf_of_map hws hm2 rfl rfl rfl rfl rfl) (scan_found_at hf).1 hdis) hlen

theorem ARFO.childStarted_accepts (s : ARFO) {cs sp : ChildSpec} (pid : Nat)
    (hsp : s.spec[cs.i]? = some sp) (hn : sp.name = cs.name) :
    ∃ md a, s.childStarted cs pid =
        ({ s with spec := s.spec.set cs.i { sp with args := cs.args, pid := pid }, mode := md }, .ok a) ∧
      (md = s.mode ∨ md = 0) ∧
      (a.act = .nothing ∨ a.act = .start ∧ cs.i < a.spec.i ∧
        ∃ c, (s.spec.set cs.i { sp with args := cs.args, pid := pid })[a.spec.i]? = some c ∧ c.name = a.spec.name ∧ c.pid = 0) := by
  -- the two panics (1, 2), not starting up (3), the last spec started (4), a further spec to start (5), none (6)
  fun_cases ARFO.childStarted s cs pid
  case case1 h => exact nomatch hsp.symm.trans h
  all_goals obtain rfl : _ = sp := Option.some.inj ((‹s.spec[cs.i]? = some _›).symm.trans hsp)
  case case2 h => exact absurd hn.symm h
  case case4 => exact ⟨_, _, rfl, .inr rfl, .inl rfl⟩
  case case5 k c hfs =>
    have hfs' := findStart_spec (cs.i + 1) _ 0 k c hfs
    exact ⟨_, _, rfl, .inl rfl, .inr ⟨rfl, hfs'.1, c, hfs'.2.2.1, rfl, hfs'.2.2.2.1⟩⟩
  all_goals exact ⟨_, _, rfl, .inl rfl, .inl rfl⟩

theorem ARFO.childSpec_cases (m : ARFO) (name : Nat) :
    (∃ e, m.childSpec name = (m, .err e)) ∨
    (∃ c, m.childSpec name = (m, .ok { act := .start, spec := c }) ∧ findName name m.spec = some c ∧ m.mode = 0) := by
  fun_cases ARFO.childSpec m name
  case case4 hm c hf _ _ => exact .inr ⟨c, rfl, hf, Decidable.not_not.mp hm⟩
  all_goals exact .inl ⟨_, rfl⟩

theorem ARFO.childSpec_good (m : ARFO) (name args : Nat) (h : ARFO.WF m) :
    ARFO.Answer m (withArgs args (m.childSpec name)) := by
  rcases ARFO.childSpec_cases m name with ⟨e, he⟩ | ⟨c, hc, hf, hm⟩
  · rw [he]; exact .same h nofun
  · rw [hc, withArgs_ok]
    exact .same h fun _ => ⟨⟨c, findName_at hf h.idx, rfl⟩, by rw [hm]; decide⟩

theorem ARFO.childAddSpec_good (m : ARFO) (name : Nat) (sig : Bool) (h : ARFO.WF m) :
    ARFO.Answer m (m.childAddSpec name sig) := by
  fun_cases ARFO.childAddSpec m name sig
  case case4 hm _ _ cs =>
    have hm2 : m.mode ≠ 2 := by rw [Decidable.not_not.mp hm]; decide
    exact ⟨⟨idx_append_one h.idx h.next, by simp [h.next], h.ko, h.rI0, fun hx => absurd hx hm2⟩,
      fun _ => ⟨⟨_, by simp [cs, h.next], rfl⟩, hm2⟩, by simp⟩
  all_goals exact .same h nofun

theorem ARFO.childEnable_good (m : ARFO) (name : Nat) (h : ARFO.WF m) : ARFO.Answer m (m.childEnable name) := by
  fun_cases ARFO.childEnable m name
  case case3 => exact .same h (fun hx => by cases hx)
  case case4 hm c hf _ c' =>
    have hm2 : m.mode ≠ 2 := by rw [Decidable.not_not.mp hm]; decide
    rw [updName_const (fun c => { c with disabled := false }) hf]
    refine ⟨ARFO.wf_of_map h hm2 rfl rfl rfl rfl (by apply updName_map; exact fun _ => rfl), fun _ => ⟨?_, hm2⟩,
      by simp [updName_length]⟩
    obtain ⟨c', hc', hn', _⟩ := updName_getElem_some name (fun c => { c with disabled := false }) (fun _ => ⟨rfl, rfl⟩)
      m.spec c.i c (findName_at hf h.idx)
    exact ⟨c', hc', hn'⟩
  all_goals exact .same h nofun

theorem ARFO.childDisable_good (m : ARFO) (name : Nat) (h : ARFO.WF m) : ARFO.Answer m (m.childDisable name) := by
  fun_cases ARFO.childDisable m name
  case case1 | case2 => exact .same h nofun
  case case3 => exact .same h (fun hx => by cases hx)
  case case4 hm _ _ _ _ | case5 hm _ _ _ _ =>
    exact ⟨ARFO.wf_of_map h (by rw [Decidable.not_not.mp hm]; decide) rfl rfl rfl rfl (by apply updName_map; exact fun _ => rfl),
      fun hx => (by cases hx), by simp [updName_length]⟩

structure ARFO.Inv (c : Loop ARFO) : Prop where
  wf : ARFO.WF c.m
  sane : c.status ≠ .panicked ∧ c.status ≠ .stuck

theorem ARFO.chain (c : Loop ARFO) (a : Action) (h : ARFO.WF c.m ∧ ARFO.GoodRes c.m (.ok a)) (ha : a.act = .start) :
    ∃ a', (arfoMachine.childStarted c.m a.spec c.nextPid).2 = .ok a' ∧
      (ARFO.WF (spawn arfoMachine c a).m ∧ ARFO.GoodRes (spawn arfoMachine c a).m (.ok a')) ∧
      startsLeft (spawn arfoMachine c a).m.spec.length a' < startsLeft c.m.spec.length a := by
  obtain ⟨⟨sp, hsp, hn⟩, hm2⟩ := h.2 ha
  obtain ⟨md, a', hc, hmd, ha'⟩ := ARFO.childStarted_accepts c.m c.nextPid hsp hn
  have hmd2 : md ≠ 2 := by
    rcases hmd with rfl | rfl
    · exact hm2
    · decide
  -- a further start is for a later spec of the slice, which `set` leaves with its indices and its length
  have hnext := fun hs : a'.act = .start => (ha'.resolve_left (by rw [hs]; simp)).2
  have hm : (spawn arfoMachine c a).m = _ := congrArg Prod.fst hc
  rw [hm]
  refine ⟨a', congrArg Prod.snd hc, ⟨ARFO.wf_of_map h.1 hmd2 rfl rfl rfl rfl (set_map (·.i) hsp rfl), fun hs => ?_⟩, ?_⟩
  · obtain ⟨_, c, hc1, hc2, _⟩ := hnext hs
    exact ⟨⟨c, hc1, hc2⟩, hmd2⟩
  · rw [List.length_set]
    exact startsLeft_lt ha (List.getElem?_eq_some_iff.mp hsp).1 fun hs => (hnext hs).1

/-- `+ 3`: as in `OFO.afterCall_inv` -/
theorem ARFO.afterCall_inv (fuel : Nat) (fromApi : Bool) (bits : List Bool) (c : Loop ARFO) (m : ARFO) (r : ARFO × Res)
    (hst : c.status = .running) (ha : ARFO.Answer m r) (hfuel : m.spec.length + 3 ≤ fuel) :
    ARFO.Inv (afterCall arfoMachine fuel fromApi bits c r) := by
  obtain ⟨hwf, hgood, hlen⟩ := ha
  obtain ⟨c', a', hj, hs, he⟩ := afterCall_ends arfoMachine _
    (fun m a => startsLeft m.spec.length a) ARFO.chain fuel fromApi bits c hgood (fun _ h => ⟨hwf, h⟩)
    (fun _ => Nat.lt_of_le_of_lt (startsLeft_le ..) (by omega))
  obtain ⟨es, st, hfin, hsane⟩ := finish_sane fromApi c' a' (hs.trans hst)
  rw [he, hfin]
  exact ⟨hj.1, hsane⟩

theorem ARFO.call_good {c c0 : Loop ARFO} {l : Label} {api : Bool} {bits : List Bool} {r : ARFO × Res}
    (hc : Call arfoMachine c l api bits c0 r) (h : ARFO.WF c.m) : ARFO.Answer c.m r := by
  cases hc with
  | deliver hr => exact ARFO.ct_good _ _ _ _ _ h
  | foreign => exact ARFO.ct_good _ _ _ _ _ h
  | startChild => exact ARFO.childSpec_good _ _ _ h
  | addChild => exact ARFO.childAddSpec_good _ _ _ h
  | enable => exact ARFO.childEnable_good _ _ h
  | disable => exact ARFO.childDisable_good _ _ h

/-- every step of the closed all/rest-for-one system WITHOUT KeepOrder keeps the machine well-formed and never panics -/
theorem ARFO.step_inv (c c' : Loop ARFO) (l : Label) (h : ARFO.Inv c) (hs : arfoStep c l = some c') : ARFO.Inv c' := by
  obtain ⟨hst, ⟨pid, r, rfl, _, rfl⟩ | ⟨api, bits, c0, r, hc, rfl⟩⟩ := step_cases hs
  · exact ⟨h.wf, h.sane⟩
  · exact ARFO.afterCall_inv _ api bits c0 c.m r (hc.status_eq.trans hst) (ARFO.call_good hc h.wf) (Nat.le_refl _)

theorem ARFO.init_cons {sp : SupSpec} {n : Nat} {sg : Bool} {t : List (Nat × Bool)} (h : sp.children = (n, sg) :: t) :
    ARFO.init {} sp =
      ({ spec := mkSpecs true 0 sp.children, rest := sp.rest, restart := sp.restart, i := sp.children.length, mode := 1,
         autoshutdown := !sp.disableAutoShutdown, keeporder := sp.restart.keepOrder },
       .ok { act := .start, spec := { name := n, significant := sg, register := true, i := 0 } }) := by
  cases hr : sp.rest <;> simp [ARFO.init, h, hr, mkSpecs]

theorem ARFO.boot_inv (sp : SupSpec) (hne : sp.children ≠ []) (hko : sp.restart.keepOrder = false) : ARFO.Inv (arfoBoot sp) := by
  unfold arfoBoot boot
  cases hch : sp.children with
  | nil => exact absurd hch hne
  | cons a t =>
    obtain ⟨n, sg⟩ := a
    rw [← hch, ARFO.init_cons hch]
    refine ARFO.afterCall_inv _ false [] _ _ _ rfl
      ⟨⟨fun k c hc => by have := mkSpecs_idx _ 0 k c hc; omega, (mkSpecs_length _ _).symm, hko, fun _ => rfl,
        fun hx => by simp at hx⟩, fun _ => ⟨⟨_, ?_, rfl⟩, by simp⟩, Nat.le_succ _⟩ (by simp [mkSpecs_length])
    show (mkSpecs true 0 sp.children)[0]? = _
    rw [hch]; rfl

theorem ARFO.startAfterStop_panic (s : ARFO) : (ARFO.startAfterStop s).2 = .panic → ARFO.childForStart s = none := by
  fun_cases ARFO.startAfterStop s <;> intro h <;> cases h
  assumption

theorem ARFO.restartStep_panic (s : ARFO) (k : Nat) (r : Reason) (h : (ARFO.restartStep s k r).2 = .panic) :
    ARFO.childForStart { s with restartI := if s.rest then k else s.restartI } = none := by
  rw [ARFO.restartStep_eq] at h
  simp only at h
  generalize (if s.rest then k else s.restartI) = rI at h ⊢
  split at h
  · split at h
    · assumption
    · simp at h
  · simp at h

theorem ARFO.stoppingStep_panic (s : ARFO) (k : Nat) (r : Reason) : (ARFO.stoppingStep s k r).2 = .panic →
    (s.keeporder = true ∧ s.wait ≠ []) ∨ ARFO.childForStart s = none ∨
      ARFO.childForStart { s with restartI := k } = none := by
  -- without KeepOrder: still waiting (1), start (2); with it: the "must be 0" panic (3), a next child to stop (4),
  -- start (5), where `hct` is the equation of `let (s, t) := childrenForTermination _`
  fun_cases ARFO.stoppingStep s k r
  case case1 | case4 => intro h; cases h
  case case2 => exact fun h => .inr (.inl (ARFO.startAfterStop_panic _ h))
  case case3 hko hw => exact fun _ => .inl ⟨by simpa using hko, fun he => by rw [he] at hw; cases hw⟩
  case case5 hct _ =>
    cases hct
    intro h
    -- `childForStart` does not look at the wait set `childrenForTermination` has filled
    have : ARFO.childForStart (if k < s.restartI then { s with restartI := k } else s) = none :=
      ARFO.startAfterStop_panic (ARFO.childrenForTermination _).1 h
    split at this
    · exact .inr (.inr this)
    · exact .inr (.inl this)

/-- what a panic of `childTerminated` of all/rest-for-one means: the KeepOrder "must be 0" test of the stopping mode
failed, or `childForStart` found nothing to start in the scanned slice — from the current restart position, or from
the position of the spec the exit belongs to -/
theorem ARFO.panic_cases (s : ARFO) (name pid : Nat) (r : Reason) (now : Int) :
    (s.childTerminated name pid r now).2 = .panic →
    (s.mode = 2 ∧ s.keeporder = true ∧ sdel pid s.wait ≠ []) ∨
    ARFO.childForStart { s with spec := (scan name pid 0 s.spec).spec } = none ∨
    ∃ k c, (scan name pid 0 s.spec).found = some (k, c) ∧
      ARFO.childForStart { s with spec := (scan name pid 0 s.spec).spec, restartI := k } = none := by
  by_cases hm3 : s.mode = 3
  · rw [ARFO.childTerminated_shut s name pid r now hm3]; exact nofun
  rcases ARFO.childTerminated_cases s name pid r now hm3 with hq | ⟨k, c, hf, ⟨hm2, he⟩ | ⟨_, _, he⟩⟩
  · obtain ⟨a, ha, _⟩ := hq.2
    exact fun h => nomatch ha.symm.trans h
  · rw [he]
    intro h
    rcases ARFO.stoppingStep_panic _ _ _ h with ⟨h1, h2⟩ | h1 | h1
    · exact .inl ⟨hm2, h1, h2⟩
    · exact .inr (.inl h1)
    · exact .inr (.inr ⟨k, c, hf, h1⟩)
  · rw [he]
    intro h
    have hc := ARFO.restartStep_panic _ _ _ h
    split at hc
    · exact .inr (.inr ⟨k, c, hf, hc⟩)
    · exact .inr (.inl hc)

end ErgoVerif.Sup
