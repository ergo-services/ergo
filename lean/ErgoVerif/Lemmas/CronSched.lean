/-
The cron scheduler model: the invariant every operation keeps (`Inv`; `Armed` for the spool being complete for c.next),
and what a run of the timer function fires.
-/
import ErgoVerif.ListFacts
import ErgoVerif.Model.CronSched
namespace ErgoVerif.CronSched
open ErgoVerif.Cron

variable (civil : CivilFn)

@[simp] theorem setDisable_name (objs : Nat → JobObj) (p : Nat) (b : Bool) (q : Nat) :
    (setDisable objs p b q).name = (objs q).name := by unfold setDisable; split <;> rfl
@[simp] theorem setDisable_spec (objs : Nat → JobObj) (p : Nat) (b : Bool) (q : Nat) :
    (setDisable objs p b q).spec = (objs q).spec := by unfold setDisable; split <;> rfl
@[simp] theorem setDisable_loc (objs : Nat → JobObj) (p : Nat) (b : Bool) (q : Nat) :
    (setDisable objs p b q).loc = (objs q).loc := by unfold setDisable; split <;> rfl
@[simp] theorem setDisable_same (objs : Nat → JobObj) (p : Nat) (b : Bool) :
    (setDisable objs p b p).disable = b := by simp [setDisable]
theorem setDisable_other (objs : Nat → JobObj) (p : Nat) (b : Bool) (q : Nat) (h : q ≠ p) :
    (setDisable objs p b q).disable = (objs q).disable := by simp [setDisable, h]
@[simp] theorem runsAt_setDisable (objs : Nat → JobObj) (p : Nat) (b : Bool) (q : Nat) (m : Int) :
    runsAt civil (setDisable objs p b q) m = runsAt civil (objs q) m := by simp [runsAt]

theorem findJob_some {s : Sched} {name p : Nat} (h : findJob s name = some p) :
    p ∈ s.jobs ∧ (s.objs p).name = name := by
  unfold findJob at h
  exact ⟨List.mem_of_find?_eq_some h, by simpa using List.find?_some h⟩

theorem findJob_none {s : Sched} {name : Nat} (h : findJob s name = none) :
    ∀ q ∈ s.jobs, (s.objs q).name ≠ name := by
  unfold findJob at h
  intro q hq
  have := List.find?_eq_none.mp h q hq
  simpa using this

/-- the entries c.schedule pushes -/
def dueList (s : Sched) (next : Int) (l : List Nat) : List (Nat × Int) :=
  (l.filter (fun p => (s.objs p).disable = false && runsAt civil (s.objs p) next)).map (fun p => (p, next))

theorem mem_dueList (s : Sched) (next : Int) (l : List Nat) (e : Nat × Int) :
    e ∈ dueList civil s next l ↔
      e.2 = next ∧ e.1 ∈ l ∧ (s.objs e.1).disable = false ∧ runsAt civil (s.objs e.1) next = true := by
  obtain ⟨p, m⟩ := e
  simp only [dueList, List.mem_map, List.mem_filter, Bool.and_eq_true, decide_eq_true_eq, Prod.mk.injEq]
  constructor
  · rintro ⟨q, ⟨h1, h2, h3⟩, rfl, rfl⟩; exact ⟨rfl, h1, h2, h3⟩
  · rintro ⟨rfl, h1, h2, h3⟩; exact ⟨p, ⟨h1, h2, h3⟩, rfl, rfl⟩

theorem scheduleJob_eq (s : Sched) (p : Nat) :
    scheduleJob civil s p = { s with spool := s.spool ++ dueList civil s s.next [p] } := by
  unfold scheduleJob dueList
  cases h1 : (s.objs p).disable <;> cases h2 : runsAt civil (s.objs p) s.next <;> simp [h1, h2]

theorem foldl_scheduleJob (l : List Nat) (s : Sched) :
    l.foldl (scheduleJob civil) s = { s with spool := s.spool ++ dueList civil s s.next l } := by
  induction l generalizing s with
  | nil => simp [dueList]
  | cons p rest ih =>
    rw [List.foldl_cons, ih, scheduleJob_eq]
    simp only [dueList, List.filter_cons, List.append_assoc]
    split <;> simp

theorem schedule_eq (s : Sched) (next : Int) :
    schedule civil s next = { s with next := next, spool := s.spool ++ dueList civil s next s.jobs } := by
  rw [schedule, foldl_scheduleJob]; rfl

structure Inv (s : Sched) : Prop where
  /-- a spool entry pushed for minute m runs at m -/
  spool_due : ∀ e ∈ s.spool, runsAt civil (s.objs e.1) e.2 = true
  /-- spooled pointers are allocated: the next pointer is fresh -/
  spool_lt : ∀ e ∈ s.spool, e.1 < s.nobjs
  /-- an object that is not in the map is disabled (RemoveJob sets the flag; nothing clears it again) -/
  absent_disabled : ∀ p, p ∉ s.jobs → (s.objs p).disable = true
  /-- present pointers are allocated -/
  jobs_lt : ∀ p ∈ s.jobs, p < s.nobjs
  /-- every present job carries an AST of the grammar (AddJob refuses anything else) -/
  specs_valid : ∀ p ∈ s.jobs, (s.objs p).spec.valid = true

def ArmedAt (s : Sched) (p : Nat) : Prop :=
  (s.objs p).disable = false → runsAt civil (s.objs p) s.next = true → (p, s.next) ∈ s.spool

/-- the spool is complete for c.next.
    Holds after c.schedule and is kept by the API calls; the drain half of the timer function ends it. -/
def Armed (s : Sched) : Prop := ∀ p ∈ s.jobs, ArmedAt civil s p

theorem inv_init (next : Int) : Inv civil (init next) := by
  constructor <;> simp [init, JobObj.default]

/-- the step all scheduling shares (c.schedule, AddJob, EnableJob) -/
theorem inv_push {s : Sched} (hs : Inv civil s) (l : List Nat) (hl : ∀ p ∈ l, p ∈ s.jobs) :
    Inv civil { s with spool := s.spool ++ dueList civil s s.next l } ∧
    ∀ p, (p ∈ l ∨ ArmedAt civil s p) → ArmedAt civil { s with spool := s.spool ++ dueList civil s s.next l } p := by
  refine ⟨⟨?_, ?_, hs.absent_disabled, hs.jobs_lt, hs.specs_valid⟩, ?_⟩
  · intro e he
    rcases List.mem_append.mp he with he | he
    · exact hs.spool_due e he
    · obtain ⟨a, _, _, d⟩ := (mem_dueList civil _ _ _ _).mp he
      rw [a]; exact d
  · intro e he
    rcases List.mem_append.mp he with he | he
    · exact hs.spool_lt e he
    · exact hs.jobs_lt _ (hl _ ((mem_dueList civil _ _ _ _).mp he).2.1)
  · rintro p (hp | hp) hd hr
    · exact List.mem_append_right _ ((mem_dueList civil _ _ _ _).mpr ⟨rfl, hp, hd, hr⟩)
    · exact List.mem_append_left _ (hp hd hr)

theorem inv_schedule (s : Sched) (hs : Inv civil s) (next : Int) :
    Inv civil (schedule civil s next) ∧ Armed civil (schedule civil s next) := by
  rw [schedule_eq]
  have hs' : Inv civil { s with next := next } := { hs with }
  obtain ⟨h1, h2⟩ := inv_push civil hs' s.jobs fun _ h => h
  exact ⟨h1, fun p hp => h2 p (Or.inl hp)⟩

theorem inv_drain (s : Sched) (hs : Inv civil s) : Inv civil { s with spool := [] } :=
  ⟨by simp, by simp, hs.absent_disabled, hs.jobs_lt, hs.specs_valid⟩

theorem inv_setDisable {s : Sched} (hs : Inv civil s) {p : Nat} (hp : p ∈ s.jobs) (b : Bool) :
    Inv civil { s with objs := setDisable s.objs p b } := by
  refine ⟨?_, hs.spool_lt, ?_, hs.jobs_lt, ?_⟩
  · intro e he; simp only [runsAt_setDisable]; exact hs.spool_due e he
  · intro q hq
    rw [setDisable_other _ _ _ _ fun (e : q = p) => hq (e ▸ hp)]; exact hs.absent_disabled q hq
  · intro q hq; simp only [setDisable_spec]; exact hs.specs_valid q hq

theorem armedAt_setDisable {s : Sched} {p q : Nat} (b : Bool) (h : q = p → b = true) (ha : ArmedAt civil s q) :
    ArmedAt civil { s with objs := setDisable s.objs p b } q := by
  intro hd hr
  simp only [runsAt_setDisable] at hr
  by_cases e : q = p
  · subst e; rw [setDisable_same, h rfl] at hd; cases hd
  · rw [setDisable_other _ _ _ _ e] at hd; exact ha hd hr

/-- the four calls of the public API -/
def Op.isCall : Op → Bool
  | .add _ _ _ | .remove _ | .enable _ | .disable _ => true
  | _ => false

/-- `hparse` is all the scheduler needs to know of the parser (`parseSpec_valid`) -/
theorem inv_api (hparse : ∀ text spec, parseSpec text = some spec → spec.valid = true)
    (s : Sched) (hs : Inv civil s) (op : Op) (hop : op.isCall = true) :
    Inv civil (step civil s op).1 ∧ (Armed civil s → Armed civil (step civil s op).1) := by
  cases op with
  | disable name =>
    simp only [step]
    cases hf : findJob s name with
    | none => exact ⟨hs, id⟩
    | some p =>
      exact ⟨inv_setDisable civil hs (findJob_some hf).1 true,
        fun ha q hq => armedAt_setDisable civil true (fun _ => rfl) (ha q hq)⟩
  | remove name =>
    simp only [step]
    cases hf : findJob s name with
    | none => exact ⟨hs, id⟩
    | some p =>
      have h := inv_setDisable civil hs (findJob_some hf).1 true
      refine ⟨⟨h.spool_due, h.spool_lt, ?_, ?_, ?_⟩, ?_⟩
      · intro q hq
        by_cases e : q = p
        · subst e; simp
        · exact h.absent_disabled q fun hm => hq (List.mem_filter.mpr ⟨hm, by simpa using e⟩)
      · intro q hq; exact hs.jobs_lt q (List.mem_filter.mp hq).1
      · intro q hq; exact h.specs_valid q (List.mem_filter.mp hq).1
      · intro ha q hq
        exact armedAt_setDisable civil true (fun _ => rfl) (ha q (List.mem_filter.mp hq).1)
  | enable name =>
    simp only [step]
    cases hf : findJob s name with
    | none => exact ⟨hs, id⟩
    | some p =>
      have hp := (findJob_some hf).1
      simp only [scheduleJob_eq]
      obtain ⟨h1, h2⟩ := inv_push civil (inv_setDisable civil hs hp false) [p] (by simpa using hp)
      refine ⟨h1, fun ha q hq => h2 q ?_⟩
      by_cases e : q = p
      · exact Or.inl (by simp [e])
      · exact Or.inr (armedAt_setDisable civil false (fun h => absurd h e) (ha q hq))
  | add name text loc =>
    simp only [step]
    split
    · exact ⟨hs, id⟩
    cases hpz : parseSpec text with
    | none => exact ⟨hs, id⟩
    | some spec =>
      cases hf : findJob s name with
      | some _ => exact ⟨hs, id⟩
      | none =>
        simp only [scheduleJob_eq]
        have old : ∀ q, q < s.nobjs → (if q = s.nobjs then (⟨name, spec, loc, false⟩ : JobObj) else s.objs q) = s.objs q :=
          fun q hq => if_neg (Nat.ne_of_lt hq)
        have h0 : Inv civil { s with objs := fun q => if q = s.nobjs then ⟨name, spec, loc, false⟩ else s.objs q,
                                     nobjs := s.nobjs + 1, jobs := s.jobs ++ [s.nobjs] } := by
          refine ⟨?_, ?_, ?_, ?_, ?_⟩
          · intro e he; simp only [old e.1 (hs.spool_lt e he)]; exact hs.spool_due e he
          · intro e he; exact Nat.lt_succ_of_lt (hs.spool_lt e he)
          · intro q hq
            simp only [List.mem_append, List.mem_singleton, not_or] at hq
            simp only [if_neg hq.2]; exact hs.absent_disabled q hq.1
          · intro q hq
            rcases List.mem_append.mp hq with hq | hq
            · exact Nat.lt_succ_of_lt (hs.jobs_lt q hq)
            · simp at hq; subst hq; exact Nat.lt_succ_self _
          · intro q hq
            rcases List.mem_append.mp hq with hq | hq
            · simp only [old q (hs.jobs_lt q hq)]; exact hs.specs_valid q hq
            · simp at hq; subst hq; simp only [if_true]; exact hparse text spec hpz
        obtain ⟨h1, h2⟩ := inv_push civil h0 [s.nobjs] (by simp)
        refine ⟨h1, fun ha q hq => h2 q ?_⟩
        rcases List.mem_append.mp hq with hq | hq
        · right; intro hd hr
          simp only [old q (hs.jobs_lt q hq)] at hd hr
          exact ha q hq hd hr
        · left; exact hq
  | _ => cases hop

theorem fireLoop_cons (objs : Nat → JobObj) (now : Int) (q : Nat) (tag : Int) (rest : List (Nat × Int)) (fired : List Nat) :
    fireLoop objs now ((q, tag) :: rest) fired =
      fireLoop objs now rest (if (objs q).disable = false ∧ tag = now ∧ q ∉ fired then fired ++ [q] else fired) := by
  simp only [fireLoop]
  cases hd : (objs q).disable <;> by_cases ht : tag = now <;> by_cases hq : q ∈ fired <;> simp [ht, hq]

theorem fireLoop_nodup (objs : Nat → JobObj) (now : Int) (spool : List (Nat × Int)) (fired : List Nat) (hn : fired.Nodup) :
    (fireLoop objs now spool fired).Nodup := by
  induction spool generalizing fired with
  | nil => exact hn
  | cons e rest ih =>
    obtain ⟨q, tag⟩ := e
    rw [fireLoop_cons]
    apply ih
    split
    · rename_i h
      exact nodup_snoc.mpr ⟨h.2.2, hn⟩
    · exact hn

theorem mem_fireLoop (objs : Nat → JobObj) (now : Int) (spool : List (Nat × Int)) (fired : List Nat) (p : Nat) :
    p ∈ fireLoop objs now spool fired ↔ p ∈ fired ∨ ((p, now) ∈ spool ∧ (objs p).disable = false) := by
  induction spool generalizing fired with
  | nil => simp [fireLoop]
  | cons e rest ih =>
    obtain ⟨q, tag⟩ := e
    rw [fireLoop_cons, ih]
    by_cases e : p = q ∧ now = tag
    · obtain ⟨rfl, rfl⟩ := e
      by_cases hd : (objs p).disable = false <;> by_cases hp : p ∈ fired <;> simp [hd, hp]
    · split
      · rename_i h
        have : p ≠ q := fun hq => e ⟨hq, h.2.1.symm⟩
        simp [this]
      · simp [e]

/-- the pointers run by the (drain half of the) timer function at wall-clock minute `now` in state `s` -/
def firedAt (s : Sched) (now : Int) : List Nat := fireLoop s.objs now s.spool []

theorem firedAt_tick (s : Sched) (now : Int) :
    (step civil s (.tick now)).2 = .fired (firedAt s now) ∧ (step civil s (.tickDrain now)).2 = .fired (firedAt s now) := by
  simp [step, firedAt]

theorem firedAt_nodup (s : Sched) (now : Int) : (firedAt s now).Nodup :=
  fireLoop_nodup s.objs now s.spool [] List.nodup_nil

theorem mem_firedAt (s : Sched) (now : Int) (p : Nat) :
    p ∈ firedAt s now ↔ (p, now) ∈ s.spool ∧ (s.objs p).disable = false := by
  simpa [firedAt] using mem_fireLoop s.objs now s.spool [] p

theorem fired_sound (s : Sched) (hs : Inv civil s) (now : Int) (p : Nat) (hp : p ∈ firedAt s now) :
    p ∈ s.jobs ∧ (s.objs p).disable = false ∧ runsAt civil (s.objs p) now = true := by
  obtain ⟨h1, h2⟩ := (mem_firedAt s now p).mp hp
  refine ⟨Decidable.byContradiction fun hn => ?_, h2, hs.spool_due (p, now) h1⟩
  rw [hs.absent_disabled p hn] at h2; cases h2

theorem fired_iff (s : Sched) (hs : Inv civil s) (ha : Armed civil s) (p : Nat) :
    p ∈ firedAt s s.next ↔ (p ∈ s.jobs ∧ (s.objs p).disable = false ∧ runsAt civil (s.objs p) s.next = true) :=
  ⟨fired_sound civil s hs s.next p, fun ⟨h1, h2, h3⟩ => (mem_firedAt s s.next p).mpr ⟨ha p h1 h2 h3, h2⟩⟩

end ErgoVerif.CronSched
