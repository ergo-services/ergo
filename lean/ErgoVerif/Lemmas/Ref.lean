import ErgoVerif.Generated.Ref
/-! `node.MakeRef` splits the 64-bit counter at bit 18 (`Generated/Ref.lean`): the counter can be read back from the
first two words (`makeRef_recover`), so they determine it. -/
namespace ErgoVerif.Ref

theorem makeRef_recover (a : BitVec 64) :
    (Gen.Ref.makeRef1 a).toNat * 2^18 + (Gen.Ref.makeRef0 a).toNat = a.toNat ∧ (Gen.Ref.makeRef0 a).toNat < 2^18 := by
  unfold Gen.Ref.makeRef0 Gen.Ref.makeRef1
  have mask18 : (2#64 <<< 17) - 1#64 = BitVec.ofNat 64 (2^18 - 1) := by decide
  simp only [mask18, BitVec.toNat_and, BitVec.toNat_ofNat, BitVec.toNat_ushiftRight]
  have e : (2^18 - 1) % 2^64 = 2^18 - 1 := by decide
  rw [e, Nat.and_two_pow_sub_one_eq_mod, Nat.shiftRight_eq_div_pow]
  omega

theorem makeRef_inj (a b : BitVec 64) (h0 : Gen.Ref.makeRef0 a = Gen.Ref.makeRef0 b)
    (h1 : Gen.Ref.makeRef1 a = Gen.Ref.makeRef1 b) : a = b := by
  apply BitVec.eq_of_toNat_eq
  rw [← (makeRef_recover a).1, ← (makeRef_recover b).1, h0, h1]

end ErgoVerif.Ref
