import ErgoVerif.Model.Envelope
import ErgoVerif.Lemmas.Frame
/-!
The envelope send() builds around a compressed frame, byte by byte (`envelope_eq`): its length and the fields the
compressed receive case reads back.  That its own length field is truthful is `Remote.envelope_lenField`.
-/
namespace ErgoVerif.Envelope
open ErgoVerif.Generated.Proto ErgoVerif.Frame

/-- the two length fields stay `beBytes 4 _` (`be4_explicit` spells them out) -/
theorem envelope_eq (cd : Codec) (t : Nat) (f : Bytes) :
    envelope cd t f =
      UInt8.ofNat protoMagic :: UInt8.ofNat protoVersion ::
      (beBytes 4 (zPreallocate + 4 + (cd.comp t f).length) ++
       (f.getD 6 0 :: UInt8.ofNat zTypeByte :: UInt8.ofNat t :: (beBytes 4 f.length ++ cd.comp t f))) := by
  simp only [envelope, beBytes_one, List.cons_append, List.nil_append, List.append_assoc]

theorem be4_explicit (n : Nat) : beBytes 4 n =
    [UInt8.ofNat (n / 256 ^ 3), UInt8.ofNat (n / 256 ^ 2), UInt8.ofNat (n / 256 ^ 1), UInt8.ofNat (n / 256 ^ 0)] := rfl

theorem envelope_length (cd : Codec) (t : Nat) (f : Bytes) :
    (envelope cd t f).length = zPreallocate + 4 + (cd.comp t f).length := by
  rw [envelope_eq]
  simp only [List.length_cons, List.length_append, beBytes_length, zPreallocate]; omega

/-- an envelope is never too short for the two length checks of the receive case -/
theorem envelope_guards (cd : Codec) (t : Nat) (f : Bytes) :
    ¬ (envelope cd t f).length < 10 ∧ ¬ (envelope cd t f).length < zSkipBytes + 4 := by
  rw [envelope_length]; simp [zPreallocate, zSkipBytes]; omega

theorem envelope_drop (cd : Codec) (t : Nat) (f : Bytes) :
    (envelope cd t f).drop (zSkipBytes + 4) = cd.comp t f := by
  rw [envelope_eq, be4_explicit, be4_explicit]; rfl

/-- the order byte of the original frame is kept (the receive queue is chosen from it) -/
theorem envelope_order (cd : Codec) (t : Nat) (f : Bytes) :
    (envelope cd t f).getD 6 0 = f.getD 6 0 := by
  rw [envelope_eq, be4_explicit]; rfl

theorem envelope_type (cd : Codec) (t : Nat) (f : Bytes) :
    (envelope cd t f)[7]? = some (UInt8.ofNat zTypeByte) := by
  rw [envelope_eq, be4_explicit]; rfl

theorem envelope_ctype (cd : Codec) (t : Nat) (f : Bytes) :
    (envelope cd t f).getD 8 0 = UInt8.ofNat t := by
  rw [envelope_eq, be4_explicit]; rfl

theorem envelope_declared (cd : Codec) (t : Nat) (f : Bytes) :
    ((envelope cd t f).drop zSkipBytes).take 4 = beBytes 4 f.length := by
  rw [envelope_eq, be4_explicit, be4_explicit]; rfl

end ErgoVerif.Envelope
