import ErgoVerif.Model.HsReader
/-! The handshake reader's loop as `run` over `next` (what the loop does with a chunk), and what follows for every run
    of it -/
namespace ErgoVerif.HsReader
open ErgoVerif.Generated

/-- the bound on a message: header + the largest accepted length field -/
def maxMsg : Nat := Hs.needBase + Hs.maxLen

def len4 (c d e f : UInt8) : Nat := c.toNat * 16777216 + d.toNat * 65536 + e.toNat * 256 + f.toNat

/-- with the six header bytes there, no index or slice of `header` fails (six is `Hs.headerLen`, and `Hs.lenHi`,
    `Hs.payloadOff`, `Hs.needBase` are the same number; `2`, `4` are `Hs.lenLo` and the width of the length field) -/
theorem header_cons6 (a b c d e f : UInt8) (rest : Bytes) :
    header (a :: b :: c :: d :: e :: f :: rest) =
      if a.toNat ≠ Hs.handshakeMagic then .errMagic
      else if b.toNat ≠ Hs.handshakeVersion then .errVersion
      else if len4 c d e f > Hs.maxLen then .errTooLong
      else if rest.length < len4 c d e f then .need (Hs.needBase + len4 c d e f)
      else .done rest := by
  have h1 : (2 ≤ 6 ∧ 6 ≤ rest.length + 1 + 1 + 1 + 1 + 1 + 1 ∧ 4 ≤ 6 - 2) := by omega
  have h2 : ∀ l, (rest.length + 1 + 1 + 1 + 1 + 1 + 1 < 6 + l) = (rest.length < l) := by intro l; simp; omega
  simp only [header, idx, be32, len4, Hs.magicOff, Hs.versionOff, Hs.lenLo, Hs.lenHi, Hs.needBase, Hs.payloadOff,
    List.length_cons, List.getElem?_cons_zero, List.getElem?_cons_succ, List.drop_succ_cons, List.drop_zero, h1, h2,
    and_self, if_true]
  rfl

theorem cons6_of_length {α : Type} (l : List α) (h : 6 ≤ l.length) :
    ∃ a b c d e f rest, l = a :: b :: c :: d :: e :: f :: rest := by
  obtain _ | ⟨a, _ | ⟨b, _ | ⟨c, _ | ⟨d, _ | ⟨e, _ | ⟨f, rest⟩⟩⟩⟩⟩⟩ := l
  case cons.cons.cons.cons.cons.cons => exact ⟨a, b, c, d, e, f, rest, rfl⟩
  all_goals simp at h

/-- `header` on a chunk that has the six header bytes: no index or slice fails, and a message it reports incomplete
    is longer than the chunk and within the bound -/
theorem header_six {chunk : Bytes} (h : Hs.headerLen ≤ chunk.length) :
    header chunk ≠ .panic ∧ ∀ n, header chunk = .need n → chunk.length < n ∧ n ≤ maxMsg := by
  obtain ⟨a, b, c, d, e, f, rest, rfl⟩ := cons6_of_length chunk h
  rw [header_cons6]
  by_cases h1 : a.toNat ≠ Hs.handshakeMagic
  · rw [if_pos h1]; exact ⟨nofun, nofun⟩
  rw [if_neg h1]
  by_cases h2 : b.toNat ≠ Hs.handshakeVersion
  · rw [if_pos h2]; exact ⟨nofun, nofun⟩
  rw [if_neg h2]
  by_cases h3 : len4 c d e f > Hs.maxLen
  · rw [if_pos h3]; exact ⟨nofun, nofun⟩
  rw [if_neg h3]
  by_cases h4 : rest.length < len4 c d e f
  · rw [if_pos h4]
    refine ⟨nofun, fun n hn => ?_⟩
    cases hn
    simp only [maxMsg, Hs.needBase, List.length_cons]
    omega
  · rw [if_neg h4]; exact ⟨nofun, nofun⟩

theorem header_no_panic (chunk : Bytes) (h : Hs.headerLen ≤ chunk.length) : header chunk ≠ .panic :=
  (header_six h).1

/-- what the loop does next with `chunk` while it waits for `expect` bytes -/
inductive Next
  | stop (r : Res)
  | read (expect : Nat)

def next (chunk : Bytes) (expect : Nat) : Next :=
  if chunk.length < expect then .read expect else
  match header chunk with
  | .panic => .stop .panic
  | .errMagic => .stop .errMagic
  | .errVersion => .stop .errVersion
  | .errTooLong => .stop .errTooLong
  | .done p => .stop (.ok p)
  | .need n => .read n

theorem next_stop {chunk : Bytes} {expect : Nat} {r : Res} (he : Hs.headerLen ≤ expect) :
    next chunk expect = .stop r → r ≠ .panic ∧ ∀ p, r = .ok p → header chunk = .done p := by
  fun_cases next chunk expect <;> intro h <;> cases h     -- the stops: `header chunk` is `.panic`, an error, `.done`
  · exact absurd ‹_› (header_no_panic chunk (by omega))
  · exact ⟨nofun, nofun⟩
  · exact ⟨nofun, nofun⟩
  · exact ⟨nofun, nofun⟩
  · exact ⟨nofun, fun _ e => by cases e; assumption⟩

theorem next_read {chunk : Bytes} {expect e : Nat} (he : Hs.headerLen ≤ expect) :
    next chunk expect = .read e → chunk.length < e ∧ Hs.headerLen ≤ e ∧ (expect ≤ maxMsg → e ≤ maxMsg) := by
  fun_cases next chunk expect <;> intro h <;> cases h     -- the reads: chunk shorter than `expect`; `.need`
  · exact ⟨‹_›, he, id⟩
  · rename_i hge hh
    have := (header_six (by omega)).2 _ hh
    exact ⟨this.1, by omega, fun _ => this.2⟩

/-- the loop with its two reading branches as one: look at the chunk (`next`), then stop or read.  Statements about
    `loop` are proved about `run` by `fun_induction`: stop, read at the end of the connection, read and go on. -/
def run (chunk : Bytes) (expect : Nat) (conn : List Bytes) (peak reads : Nat) : Outcome :=
  match next chunk expect with
  | .stop r => ⟨r, peak, reads⟩
  | .read e =>
    match conn with
    | [] => ⟨.errRead, peak, reads + 1⟩
    | r :: rest => run (chunk ++ r.take Hs.readBuf) e rest (max peak (chunk ++ r.take Hs.readBuf).length) (reads + 1)
termination_by structural conn

theorem loop_eq_run (chunk : Bytes) (expect : Nat) (conn : List Bytes) (peak reads : Nat) :
    loop chunk expect conn peak reads = run chunk expect conn peak reads := by
  fun_induction loop chunk expect conn peak reads <;> rw [run] <;> simp only [next, *] <;> rfl

theorem run_no_panic {chunk : Bytes} {expect : Nat} {conn : List Bytes} {peak reads : Nat}
    (he : Hs.headerLen ≤ expect) : (run chunk expect conn peak reads).res ≠ .panic := by
  fun_induction run chunk expect conn peak reads with
  | case1 _ _ _ _ _ _ hn => exact (next_stop he hn).1
  | case2 => nofun
  | case3 _ _ _ _ _ hn _ _ ih => exact ih (next_read he hn).2.1

theorem run_peak {B : Nat} (hB : maxMsg + Hs.readBuf ≤ B) {chunk : Bytes} {expect : Nat} {conn : List Bytes}
    {peak reads : Nat} (he : Hs.headerLen ≤ expect) (hm : expect ≤ maxMsg) (hp : peak ≤ B) :
    (run chunk expect conn peak reads).peak ≤ B := by
  fun_induction run chunk expect conn peak reads with
  | case1 => exact hp
  | case2 => exact hp
  | case3 chunk _ _ _ _ hn r _ ih =>
    -- a read happens only below `maxMsg` and adds at most one buffer
    have hr := next_read he hn
    have := List.length_take_le Hs.readBuf r
    exact ih hr.2.1 (hr.2.2 hm) (Nat.max_le.mpr ⟨hp, by simp only [List.length_append]; omega⟩)

/-- the bytes the reader has accumulated after consuming `k` reads -/
def acc (chunk : Bytes) (conn : List Bytes) (k : Nat) : Bytes :=
  chunk ++ ((conn.take k).map (·.take Hs.readBuf)).flatten

theorem run_ok {chunk : Bytes} {expect : Nat} {conn : List Bytes} {peak reads : Nat} {p : Bytes}
    (he : Hs.headerLen ≤ expect) (h : (run chunk expect conn peak reads).res = .ok p) :
    ∃ k, k ≤ conn.length ∧ header (acc chunk conn k) = .done p ∧
      (run chunk expect conn peak reads).reads = reads + k := by
  fun_induction run chunk expect conn peak reads with
  | case1 _ _ _ _ _ _ hn => exact ⟨0, Nat.zero_le _, by simpa [acc] using (next_stop he hn).2 p h, rfl⟩
  | case2 => cases h
  | case3 _ _ _ _ _ hn _ _ ih =>
    obtain ⟨k, hk, hh, hr⟩ := ih (next_read he hn).2.1 h
    exact ⟨k + 1, Nat.succ_le_succ hk, by simpa [acc, List.append_assoc] using hh, by rw [hr]; omega⟩

theorem run_reads {chunk : Bytes} {expect : Nat} {conn : List Bytes} {peak reads : Nat}
    (hne : ∀ r ∈ conn, r ≠ []) (he : Hs.headerLen ≤ expect) (hm : expect ≤ maxMsg) :
    (run chunk expect conn peak reads).reads ≤ reads + (maxMsg - chunk.length) + 1 := by
  fun_induction run chunk expect conn peak reads with
  | case1 => simp only; omega
  | case2 => simp only; omega
  | case3 chunk _ _ _ _ hn r _ ih =>
    -- every read adds a byte to a chunk that was still below `maxMsg`
    have hnr := next_read he hn
    have hm' := hnr.2.2 hm
    have hr := List.length_pos_iff.mpr (hne r (List.mem_cons_self ..))
    have : 1 ≤ (r.take Hs.readBuf).length := by rw [List.length_take, Hs.readBuf]; omega
    have := ih (fun x hx => hne x (List.mem_cons_of_mem _ hx)) hnr.2.1 hm'
    simp only [List.length_append] at this ⊢
    omega

end ErgoVerif.HsReader
