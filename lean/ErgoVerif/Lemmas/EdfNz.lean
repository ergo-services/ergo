import ErgoVerif.Lemmas.EdfEnc
/-! `Ty.nz`: the types none of whose values is encoded in zero bytes. A collection of such elements is at least as
    long as its count — what lets the decoder's count check pass. -/
namespace ErgoVerif.Edf

mutual
/-- every encoding of a value of the type has at least one byte -/
def Ty.nz : Ty → Bool
  | .array n t => decide (n > 0) && t.nz
  | .named _ t => t.nz
  | .struct _ fs => fs.anyNz
  | _ => true
def Tys.anyNz : Tys → Bool
  | .nil => false
  | .cons t ts => t.nz || ts.anyNz
end

theorem writeAtom_length (o : Opts) (a : Bytes) : 2 ≤ (writeAtom o a).length := by
  unfold writeAtom
  simp only
  split <;> (try split) <;> simp

theorem Num.width_pos (p : Num) : 0 < p.width := by cases p <;> decide

theorem encLeaf_nz (o : Opts) (t : Ty) (v : Val) (bs : Bytes) : encLeaf o t v = some bs → 1 ≤ bs.length := by
  -- a prefix of fixed size settles every case but `num` and the three that start with an atom (`atom`, `idr`, `idn`)
  fun_cases encLeaf o t v <;> intro he <;> cases he <;> try (simp <;> omega)
  · rename_i p _ _; have := p.width_pos; rw [numCanon_length]; omega
  · exact Nat.le_of_succ_le (writeAtom_length o _)
  · rename_i node _ _ _; have := writeAtom_length o node; simp; omega
  · rename_i node _ _ _; have := writeAtom_length o node; simp; omega

theorem hdr_nz (o : Opts) (t : Ty) : 1 ≤ (hdr o t).length := by
  cases t <;> simp [hdr, encTy, regPrefix] <;> (try split) <;> simp

abbrev NzAt (o : Opts) (n : Nat) : Prop :=
  ∀ (v : Val) (t : Ty) (bs : Bytes), v.depth ≤ n → encB o t v = some bs → t.nz = true → 1 ≤ bs.length

theorem encs_nz_of {o : Opts} {n : Nat} (ih : NzAt o n) : (vs : Vals) → (t : Ty) → (bs : Bytes) → vs.depth ≤ n →
    encs o t vs = some bs → t.nz = true → vs.length ≤ bs.length
  | .nil, _, _, _, _, _ => Nat.zero_le _
  | .cons v vs, t, bs, hd, he, hz => by
    obtain ⟨a, b, ha, hb, rfl⟩ := encs_cons_ok he
    simp only [Vals.depth] at hd
    have := ih v t a (by omega) ha hz
    have := encs_nz_of ih vs t b (by omega) hb hz
    simp [Vals.length]; omega

theorem encf_nz_of {o : Opts} {n : Nat} (ih : NzAt o n) : (vs : Vals) → (fs : Tys) → (bs : Bytes) → vs.depth ≤ n →
    encf o fs vs = some bs → fs.anyNz = true → 1 ≤ bs.length
  | .nil, .nil, _, _, _, hz => by cases hz
  | .nil, .cons _ _, _, _, he, _ => by cases he
  | .cons _ _, .nil, _, _, he, _ => by cases he
  | .cons v vs, .cons t ts, bs, hd, he, hz => by
    obtain ⟨a, b, ha, hb, rfl⟩ := encf_cons_ok he
    simp only [Vals.depth] at hd
    rcases Bool.or_eq_true_iff.1 hz with hz | hz
    · have := ih v t a (by omega) ha hz; simp; omega
    · have := encf_nz_of ih vs ts b (by omega) hb hz; simp; omega

theorem encB_nz_depth (o : Opts) : (n : Nat) → NzAt o n
  | 0, v, _, _, hd, _, _ => absurd hd (by have := v.depth_pos; omega)
  | n+1, v, t, bs, hd, he, hz => by
    cases encB_ok he with
    -- a marker, a tag byte or a header comes first
    | errNil | anyNil | nilSeq | nilMap | seq | map => simp
    | anyVal t' => have := hdr_nz o t'; simp; omega
    | arr e vs ht hb =>
      have hz' : 0 < vs.length ∧ e.nz = true := by cases ht <;> simpa [Ty.nz] using hz
      have := encs_nz_of (encB_nz_depth o n) vs e bs (by simp only [Val.depth] at hd; omega) hb hz'.2
      omega
    | struct hb => exact encf_nz_of (encB_nz_depth o n) _ _ bs (by simp only [Val.depth] at hd; omega) hb hz
    | marsh => simp; omega
    | leaf _ hb => exact encLeaf_nz o _ _ _ hb

theorem encB_nz (o : Opts) (v : Val) (t : Ty) (bs : Bytes) : encB o t v = some bs → t.nz = true → 1 ≤ bs.length :=
  encB_nz_depth o v.depth v t bs (Nat.le_refl _)
/-- under the clause of `Good` for a collection, as it stands there, the count is at most the bytes (so too `encp_nz`) -/
theorem encs_nz (o : Opts) (vs : Vals) (t : Ty) (bs : Bytes) (he : encs o t vs = some bs) :
    t.nz = true ∨ vs.length = 0 → vs.length ≤ bs.length
  | .inl hz => encs_nz_of (encB_nz_depth o vs.depth) vs t bs (Nat.le_refl _) he hz
  | .inr h0 => h0 ▸ Nat.zero_le _
theorem encf_nz (o : Opts) : (vs : Vals) → (fs : Tys) → (bs : Bytes) → encf o fs vs = some bs → fs.anyNz = true → 1 ≤ bs.length :=
  fun vs fs bs => encf_nz_of (encB_nz_depth o vs.depth) vs fs bs (Nat.le_refl _)

theorem encp_nz (o : Opts) : (ps : Pairs) → (kt vt : Ty) → (bs : Bytes) → encp o kt vt ps = some bs →
    (kt.nz = true ∨ vt.nz = true ∨ ps.length = 0) → ps.length ≤ bs.length
  | .nil, _, _, _, _, _ => Nat.zero_le _
  | .cons k v ps, kt, vt, bs, he, hz => by
    obtain ⟨a, b, c, ha, hb, hc, rfl⟩ := encp_cons_ok he
    rcases hz with hz | hz | hz
    · have := encp_nz o ps kt vt c hc (.inl hz)
      have := encB_nz o k kt a ha hz
      simp [Pairs.length]; omega
    · have := encp_nz o ps kt vt c hc (.inr (.inl hz))
      have := encB_nz o v vt b hb hz
      simp [Pairs.length]; omega
    · cases hz

theorem encs_nil_len (o : Opts) (t : Ty) (vs : Vals) (bs : Bytes) (he : encs o t vs = some bs) (h : vs.length = 0) : bs = [] := by
  cases vs with
  | nil => cases he; rfl
  | cons _ _ => simp [Vals.length] at h

end ErgoVerif.Edf
