import ErgoVerif.Model.Cron
namespace ErgoVerif.Cron

/-- the value conditions of the grammar, option by option -/
theorem Item.valid_iff {k : Kind} {it : Item} : it.valid k = true ↔
    match it with
    | .num n => k.lo ≤ n ∧ n ≤ k.hi
    | .range a b => k.lo ≤ a ∧ a ≤ b ∧ b ≤ k.hi
    | .rangeStep a b s => k.allowsRangeStep = true ∧ k.lo ≤ a ∧ a ≤ b ∧ b ≤ k.hi ∧ 1 ≤ s ∧ s ≤ k.hi
    | .starStep s => k.allowsStep = true ∧ 1 ≤ s ∧ s ≤ k.hi
    | .last => k = .day
    | .lastW w => k = .wday ∧ 1 ≤ w ∧ w ≤ 7
    | .nth w n => k = .wday ∧ 1 ≤ w ∧ w ≤ 7 ∧ 1 ≤ n ∧ n ≤ 5 := by
  cases it <;> simp only [Item.valid, Bool.and_eq_true, decide_eq_true_eq, and_assoc]

theorem Field.valid_list {k : Kind} {items : List Item} :
    (Field.list items).valid k = true ↔ items ≠ [] ∧ ∀ i ∈ items, i.valid k = true := by
  cases items <;> simp [Field.valid]

theorem Spec.valid_iff {s : Spec} : s.valid = true ↔
    s.minute.valid .minute = true ∧ s.hour.valid .hour = true ∧ s.day.valid .day = true ∧
    s.month.valid .month = true ∧ s.wday.valid .wday = true := by
  simp only [Spec.valid, Bool.and_eq_true, and_assoc]

end ErgoVerif.Cron
