import ErgoVerif.Model.Perm
/-! the Go-map model (`NodeMap`), and a permission table as its lookup sees it (`Tbl`): what an enable and a disable
    do to the lookup -/
namespace ErgoVerif.Perm

namespace NodeMap

theorem lookup_filter_ne (m : NodeMap) (k k' : Nat) :
    (m.filter (fun e => e.1 != k)).lookup k' = if k' = k then none else m.lookup k' := by
  induction m with
  | nil => simp
  | cons e m ih => grind     -- the head is dropped or kept, and is or is not the key looked up

theorem get_nil (k : Nat) : get [] k = false := by simp [get]

theorem get_set (m : NodeMap) (k k' : Nat) (v : Bool) :
    (m.set k v).get k' = if k' = k then v else m.get k' := by
  unfold get set
  by_cases h : k' = k
  · subst h; simp
  · have : (k' == k) = false := by simpa using h
    simp [List.lookup_cons, this, lookup_filter_ne, h]

theorem get_del (m : NodeMap) (k k' : Nat) :
    (m.del k).get k' = if k' = k then false else m.get k' := by
  unfold get del
  rw [lookup_filter_ne]
  by_cases h : k' = k <;> simp [h]

theorem get_setAll (m : NodeMap) (ks : List Nat) (k' : Nat) (v : Bool) :
    (m.setAll ks v).get k' = if k' ∈ ks then v else m.get k' := by
  unfold setAll
  induction ks generalizing m with
  | nil => simp
  | cons k ks ih =>
    simp only [List.foldl_cons, ih, get_set, List.mem_cons]
    by_cases h1 : k' ∈ ks
    · simp [h1]
    · by_cases h2 : k' = k <;> simp [h1, h2]

theorem setAll_length_pos {m : NodeMap} {ks : List Nat} (v : Bool) (h : 0 < m.length ∨ ks ≠ []) :
    0 < (m.setAll ks v).length := by
  unfold setAll
  induction ks generalizing m with
  | nil => exact h.resolve_right (fun h => h rfl)
  | cons k ks ih => exact ih (Or.inl (by simp [set]))

theorem get_true_allows {m : NodeMap} {k : Nat} (h : m.get k = true) : m.allows k = true := by
  cases m with
  | nil => simp [get] at h
  | cons e m => simpa [allows] using h

theorem allows_nil (k : Nat) : allows [] k = true := by simp [allows]

theorem allows_setAll (m : NodeMap) {ks : List Nat} (v : Bool) (k : Nat) (h : ks ≠ []) :
    (m.setAll ks v).allows k = if k ∈ ks then v else m.get k := by
  unfold allows
  simp [setAll_length_pos (m := m) v (Or.inr h), get_setAll]

end NodeMap

theorem upd_same {α : Type} (f : Nat → Option α) (k : Nat) (v : Option α) : upd f k v k = v := by
  simp [upd]

theorem upd_other {α : Type} (f : Nat → Option α) {k k' : Nat} (v : Option α) (h : k' ≠ k) :
    upd f k v k' = f k' := by
  simp [upd, h]

theorem covers_iff {ns : List Nat} {p : Nat} : covers ns p = true ↔ ns = [] ∨ p ∈ ns := by
  simp [covers, List.isEmpty_iff]

def allowedSpawn (s : St) (name peer : Nat) : Prop := (getEnabledSpawn s name peer).1 = .ok
def allowedApp (s : St) (name peer : Nat) : Prop := isEnabledApp s name peer = .ok

instance (s : St) (n p : Nat) : Decidable (allowedSpawn s n p) := by unfold allowedSpawn; infer_instance
instance (s : St) (n p : Nat) : Decidable (allowedApp s n p) := by unfold allowedApp; infer_instance

abbrev Tbl := Nat → Option NodeMap

namespace Tbl

/-- the lookup shared by `getEnabledSpawn` and `isEnabledApp` -/
def allowed (t : Tbl) (name peer : Nat) : Prop := ∃ m, t name = some m ∧ m.allows peer = true

/-- what `EnableSpawn` / `EnableApplicationStart` do to the node maps -/
def enable (t : Tbl) (n : Nat) (ns : List Nat) : Tbl :=
  upd t n (some (if ns.isEmpty then [] else ((t n).getD []).setAll ns true))

/-- what `DisableSpawn` / `DisableApplicationStart` do to the node maps -/
def disable (t : Tbl) (n : Nat) (ns : List Nat) : Tbl :=
  match t n with
  | none => t
  | some m => upd t n (if ns.isEmpty then none else some (m.setAll ns false))

theorem allowed_enable {t : Tbl} {n : Nat} {ns : List Nat} {name peer : Nat}
    (h : (t.enable n ns).allowed name peer) : (n = name ∧ covers ns peer = true) ∨ t.allowed name peer := by
  obtain ⟨m, hm, hal⟩ := h
  by_cases hn : name = n
  · subst hn
    by_cases hc : covers ns peer = true
    · exact Or.inl ⟨rfl, hc⟩
    · obtain ⟨hne, hnot⟩ := not_or.mp (mt covers_iff.mpr hc)
      have hemp : ns.isEmpty = false := List.isEmpty_eq_false_iff.mpr hne
      simp only [enable, upd_same, hemp, Option.some.injEq, Bool.false_eq_true, if_false] at hm
      subst hm
      -- the peer was not set by this call, so it was `true` in the map before: that map existed and was non-empty
      rw [NodeMap.allows_setAll _ _ _ hne, if_neg hnot] at hal
      cases ht : t name with
      | none => simp [ht, NodeMap.get_nil] at hal
      | some m0 => exact Or.inr ⟨m0, ht, NodeMap.get_true_allows (by simpa [ht] using hal)⟩
  · exact Or.inr ⟨m, by rwa [enable, upd_other _ _ hn] at hm, hal⟩

theorem allowed_disable {t : Tbl} {n : Nat} {ns : List Nat} {name peer : Nat}
    (h : (t.disable n ns).allowed name peer) : ¬ (n = name ∧ covers ns peer = true) ∧ t.allowed name peer := by
  obtain ⟨m, hm, hal⟩ := h
  cases ht : t n with
  | none =>
    simp only [disable, ht] at hm
    exact ⟨fun hc => (by rw [← hc.1, ht] at hm; cases hm), m, hm, hal⟩
  | some m0 =>
    simp only [disable, ht] at hm
    by_cases hn : name = n
    · subst hn
      by_cases hemp : ns.isEmpty = true
      · simp [hemp, upd_same] at hm
      · have hne : ns ≠ [] := mt List.isEmpty_iff.mpr hemp
        simp only [upd_same, hemp, Option.some.injEq, Bool.false_eq_true, if_false] at hm
        subst hm
        rw [NodeMap.allows_setAll _ _ _ hne] at hal
        by_cases hin : peer ∈ ns
        · simp [hin] at hal
        · rw [if_neg hin] at hal
          exact ⟨fun hc => (covers_iff.mp hc.2).elim hne hin, m0, ht, NodeMap.get_true_allows hal⟩
    · exact ⟨fun hc => hn hc.1.symm, m, by rwa [upd_other _ _ hn] at hm, hal⟩

end Tbl

def spawnTbl (sp : Nat → Option SpawnEntry) : Tbl := fun n => (sp n).map (·.nodes)

theorem spawnTbl_upd (sp : Nat → Option SpawnEntry) (k : Nat) (v : Option SpawnEntry) :
    spawnTbl (upd sp k v) = upd (spawnTbl sp) k (v.map (·.nodes)) := by
  funext n; simp only [spawnTbl, upd]; split <;> rfl

theorem allowedSpawn_iff (s : St) (name peer : Nat) :
    allowedSpawn s name peer ↔ (spawnTbl s.spawn).allowed name peer := by
  unfold allowedSpawn getEnabledSpawn Tbl.allowed spawnTbl
  cases s.spawn name with
  | none => simp
  | some e => by_cases h2 : e.nodes.allows peer = true <;> simp [h2]

theorem allowedApp_iff (s : St) (name peer : Nat) : allowedApp s name peer ↔ Tbl.allowed s.app name peer := by
  unfold allowedApp isEnabledApp Tbl.allowed
  cases s.app name with
  | none => simp
  | some m => by_cases h2 : NodeMap.allows m peer = true <;> simp [h2]

end ErgoVerif.Perm
