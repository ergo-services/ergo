import ErgoVerif.Lemmas.Perm
/-! the permission tables never allow more than what the operation history justifies (induction over all histories) -/
namespace ErgoVerif.Perm

theorem enableSpawn_fail {s : St} {n f : Nat} {ns : List Nat} :
    (enableSpawn s n f ns).2 ≠ .ok → (enableSpawn s n f ns).1 = s := by
  fun_cases enableSpawn s n f ns <;> intro h
  · rfl
  · rfl
  · exact absurd rfl h

theorem enableSpawn_ok {s : St} {n f : Nat} {ns : List Nat} : (enableSpawn s n f ns).2 = .ok →
    (enableSpawn s n f ns).1.spawn =
      upd s.spawn n (some ⟨f, if ns.isEmpty then [] else ((spawnTbl s.spawn n).getD []).setAll ns true⟩)
    ∧ (enableSpawn s n f ns).1.app = s.app := by
  fun_cases enableSpawn s n f ns <;> intro h <;> cases h
  refine ⟨?_, rfl⟩
  -- the entry that `LoadOrStore` returned: the stored one, with the same factory, or a new one with no nodes
  cases hs : s.spawn n <;> simp_all +zetaDelta [spawnTbl]

theorem enableSpawn_tbl (s : St) (n f : Nat) (ns : List Nat) :
    spawnTbl (enableSpawn s n f ns).1.spawn =
      (if (enableSpawn s n f ns).2 = .ok then (spawnTbl s.spawn).enable n ns else spawnTbl s.spawn) ∧
    (enableSpawn s n f ns).1.app = s.app := by
  by_cases hok : (enableSpawn s n f ns).2 = .ok
  · rw [if_pos hok, (enableSpawn_ok hok).1, (enableSpawn_ok hok).2, spawnTbl_upd]
    exact ⟨rfl, rfl⟩
  · rw [if_neg hok, enableSpawn_fail hok]
    exact ⟨rfl, rfl⟩

theorem disableSpawn_tbl (s : St) (n : Nat) (ns : List Nat) :
    spawnTbl (disableSpawn s n ns).1.spawn = (spawnTbl s.spawn).disable n ns ∧ (disableSpawn s n ns).1.app = s.app := by
  unfold disableSpawn
  cases hs : s.spawn n with
  | none => simp [Tbl.disable, spawnTbl, hs]
  | some e => by_cases hemp : ns.isEmpty = true <;> simp [hemp, spawnTbl_upd, Tbl.disable, spawnTbl, hs]

theorem disableApp_tbl (s : St) (n : Nat) (ns : List Nat) :
    (disableApp s n ns).1.app = Tbl.disable s.app n ns ∧ (disableApp s n ns).1.spawn = s.spawn := by
  unfold disableApp Tbl.disable
  cases hs : s.app n with
  | none => simp
  | some m => by_cases hemp : ns.isEmpty = true <;> simp [hemp]

theorem spawn_safe {ops : List Op} {name peer : Nat} :
    allowedSpawn (after ops) name peer → spawnJustified name peer ops = true := by
  simp only [allowedSpawn_iff]
  induction ops with
  | nil => intro ⟨m, hm, _⟩; cases hm
  | cons op older ih =>
    intro h
    cases op with
    | enableSpawn n f ns =>
      rw [after, step, (enableSpawn_tbl _ _ _ _).1] at h
      simp only [spawnJustified]
      split
      · rfl
      · rename_i hc
        split at h
        · rename_i hok
          exact ih ((Tbl.allowed_enable h).resolve_left fun ⟨h1, h2⟩ => hc ⟨h1, h2, hok⟩)
        · exact ih h
    | disableSpawn n ns =>
      rw [after, step, (disableSpawn_tbl _ _ _).1] at h
      have ⟨h1, h2⟩ := Tbl.allowed_disable h
      simp only [spawnJustified, if_neg h1]
      exact ih h2
    | enableApp n ns => exact ih h
    | disableApp n ns => exact ih (by rwa [after, step, (disableApp_tbl _ _ _).2] at h)

theorem app_safe {ops : List Op} {name peer : Nat} :
    allowedApp (after ops) name peer → appJustified name peer ops = true := by
  simp only [allowedApp_iff]
  induction ops with
  | nil => intro ⟨m, hm, _⟩; cases hm
  | cons op older ih =>
    intro h
    cases op with
    | enableApp n ns =>
      simp only [appJustified]
      split
      · rfl
      · rename_i hc
        -- `enableApp` is `Tbl.enable` on the app table by definition: `h` needs no rewriting
        exact ih ((Tbl.allowed_enable h).resolve_left hc)
    | disableApp n ns =>
      rw [after, step, (disableApp_tbl _ _ _).1] at h
      have ⟨h1, h2⟩ := Tbl.allowed_disable h
      simp only [appJustified, if_neg h1]
      exact ih h2
    | enableSpawn n f ns => exact ih (by rwa [after, step, (enableSpawn_tbl _ _ _ _).2] at h)
    | disableSpawn n ns => exact ih (by rwa [after, step, (disableSpawn_tbl _ _ _).2] at h)

/-- in the newest-first history `l` the latest operation that matters is an enabling one: `l` splits at an operation
    `E` (which may depend on what is older) and nothing newer is a `D` -/
def Latest {α : Type} (E : α → List α → Prop) (D : α → Prop) (l : List α) : Prop :=
  ∃ post a older, l = post ++ a :: older ∧ E a older ∧ ∀ d ∈ post, ¬ D d

theorem Latest.here {α : Type} {E : α → List α → Prop} {D : α → Prop} {a : α} {l : List α} (h : E a l) :
    Latest E D (a :: l) := ⟨[], a, l, rfl, h, nofun⟩

theorem Latest.cons {α : Type} {E : α → List α → Prop} {D : α → Prop} {a : α} {l : List α} (hD : ¬ D a) :
    Latest E D l → Latest E D (a :: l)
  | ⟨post, e, older, hl, hE, hp⟩ => ⟨a :: post, e, older, by rw [hl]; rfl, hE, List.forall_mem_cons.mpr ⟨hD, hp⟩⟩

/-- the decidable `spawnJustified` as a statement about the history -/
theorem spawnJustified_latest {name peer : Nat} {ops : List Op} (h : spawnJustified name peer ops = true) :
    Latest (fun a older => ∃ f ns, a = .enableSpawn name f ns ∧ covers ns peer = true ∧
        (enableSpawn (after older) name f ns).2 = .ok)
      (fun d => ∃ ns, d = .disableSpawn name ns ∧ covers ns peer = true) ops := by
  -- `[]`; an enable that counts, one that does not; a disable that counts, one that does not; any other operation
  fun_induction spawnJustified name peer ops with
  | case1 => cases h
  | case2 n f ns older hc => obtain ⟨rfl, hc⟩ := hc; exact .here ⟨f, ns, rfl, hc⟩
  | case3 n f ns older hc ih => exact (ih h).cons nofun
  | case4 => cases h
  | case5 n ns older hc ih => exact (ih h).cons fun ⟨ns', e, hcov⟩ => by cases e; exact hc ⟨rfl, hcov⟩
  | case6 op older h1 h2 ih => exact (ih h).cons fun ⟨ns', e, _⟩ => h2 _ _ e

theorem appJustified_latest {name peer : Nat} {ops : List Op} (h : appJustified name peer ops = true) :
    Latest (fun a _ => ∃ ns, a = .enableApp name ns ∧ covers ns peer = true)
      (fun d => ∃ ns, d = .disableApp name ns ∧ covers ns peer = true) ops := by
  fun_induction appJustified name peer ops with     -- the same six cases
  | case1 => cases h
  | case2 n ns older hc => obtain ⟨rfl, hc⟩ := hc; exact .here ⟨ns, rfl, hc⟩
  | case3 n ns older hc ih => exact (ih h).cons nofun
  | case4 => cases h
  | case5 n ns older hc ih => exact (ih h).cons fun ⟨ns', e, hcov⟩ => by cases e; exact hc ⟨rfl, hcov⟩
  | case6 op older h1 h2 ih => exact (ih h).cons fun ⟨ns', e, _⟩ => h2 _ _ e

end ErgoVerif.Perm
