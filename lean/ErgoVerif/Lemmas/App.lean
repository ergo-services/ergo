import ErgoVerif.Model.App
namespace ErgoVerif.App

theorem terminate_of_not_mem {a : App} {i : Nat} (r : Reason) (h : i ∉ a.group) : terminate a i r = a := if_pos h

theorem terminate_of_mem {a : App} {i : Nat} (r : Reason) (h : i ∈ a.group) :
    terminate a i r = finish (afterRule { a with group := a.group.erase i } r) := if_neg (not_not_intro h)

theorem terminate_inert {a : App} {i : Nat} {r : Reason} (hin : i ∈ a.group)
    (h : modeRule a.mode r = false ∨ a.state = .stopping) :
    terminate a i r = finish { a with group := a.group.erase i } := by
  rw [terminate_of_mem r hin]
  unfold afterRule
  rcases h with h | h <;> simp [h]

theorem terminate_fire {a : App} {i : Nat} {r : Reason} (hin : i ∈ a.group) (h : modeRule a.mode r = true)
    (hs : a.state ≠ .stopping) :
    terminate a i r = finish { a with group := a.group.erase i, state := .stopping, reason := some r,
                                      exitsSent := a.exitsSent ++ a.group.erase i } := by
  rw [terminate_of_mem r hin]
  simp [afterRule, h, hs]

theorem finish_of_ne_nil {a : App} (h : a.group ≠ []) : finish a = a := if_pos h

theorem finish_of_nil {a : App} (h : a.group = []) (hs : a.state ≠ .loaded) :
    finish a = { a with state := .loaded, reason := some (a.reason.getD .normal),
                        termCbs := a.termCbs ++ [(a.run, a.reason.getD .normal)] } := by
  simp [finish, h, hs]

/-- `afterRule` touches only the state (never making it `loaded`), the reason and the exits sent -/
theorem afterRule_eq (a : App) (r : Reason) : ∃ s' r' x',
    afterRule a r = { a with state := s', reason := r', exitsSent := x' } ∧ (a.state ≠ .loaded → s' ≠ .loaded) := by
  unfold afterRule
  split
  · split
    · exact ⟨_, _, _, rfl, id⟩
    · exact ⟨_, _, _, rfl, fun _ => nofun⟩
  · exact ⟨_, _, _, rfl, id⟩

theorem runOps_inv {P : App → Prop} {rr : Bool} (hstep : ∀ a o, P a → P (step rr a o).1) :
    ∀ (ops : List Op) {a : App}, P a → P (runOps rr a ops)
  | [], _, h => h
  | o :: os, a, h => runOps_inv hstep os (hstep a o h)

/-- the last hypothesis says that no member's termination can change the recorded cause any more (stopping already, or
Temporary) -/
theorem all_exit (rr : Bool) (rs : Nat → Reason) : ∀ (l : List Nat) (a : App), l ≠ [] → a.group = l →
    a.state ≠ .loaded → (a.mode = .temporary ∨ a.state = .stopping) →
    (runOps rr a (l.map fun i => Op.memberExit i (rs i))).termCbs = a.termCbs ++ [(a.run, a.reason.getD .normal)] := by
  intro l
  induction l with
  | nil => intro a h; exact absurd rfl h
  | cons i rest ih =>
    intro a _ hg hs hm
    have herase : a.group.erase i = rest := by rw [hg]; simp
    simp only [List.map_cons, runOps, step]
    rw [terminate_inert (by simp [hg]) (hm.imp (fun h => by simp [modeRule, h]) id), herase]
    by_cases hre : rest = []
    · subst hre
      rw [finish_of_nil rfl]
      · rfl
      · exact hs
    · rw [finish_of_ne_nil hre]
      exact ih { a with group := rest } hre rfl hs hm

end ErgoVerif.App
