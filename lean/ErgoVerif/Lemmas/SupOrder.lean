import ErgoVerif.Model.SupARFO
/-
Order facts of the all/rest-for-one machine: which children are stopped for a restart and in which
order (`childrenForTermination`).  Which child is started next (`findStart`) is in `SupSlice`.
-/
namespace ErgoVerif.Sup

/-- KeepOrder: only the first element of the list is stopped now -/
def pick (ko : Bool) (l : List Nat) : List Nat := if ko then l.take 1 else l

def stoppable (c : ChildSpec) : Bool := !c.disabled && c.pid != 0

theorem pick_sublist (ko : Bool) (l : List Nat) : (pick ko l).Sublist l := by
  unfold pick
  split
  · exact List.take_sublist 1 l
  · exact .refl l

theorem stoppable_iff {c : ChildSpec} : stoppable c = true ↔ c.disabled = false ∧ c.pid ≠ 0 := by
  simp [stoppable]

theorem forTermination_cons (rI : Nat) (ko : Bool) (c : ChildSpec) (r : List ChildSpec) (k : Nat) :
    ARFO.forTermination rI ko (c :: r) k =
      if k < rI then []
      else if stoppable c then (if ko then [c.pid] else c.pid :: ARFO.forTermination rI ko r (k - 1))
      else ARFO.forTermination rI ko r (k - 1) := by
  by_cases hd : c.disabled = true <;> by_cases hp : c.pid = 0 <;> simp [ARFO.forTermination, stoppable, hd, hp]

theorem forTermination_rev (rI : Nat) (ko : Bool) (rev : List ChildSpec) :
    ARFO.forTermination rI ko rev (rev.length - 1) =
      pick ko (((rev.take (rev.length - rI)).filter stoppable).map (·.pid)) := by
  induction rev with
  | nil => simp [ARFO.forTermination, pick]
  | cons c r ih =>
    rw [forTermination_cons, List.length_cons, Nat.add_sub_cancel]
    by_cases h : r.length < rI
    · rw [if_pos h, Nat.sub_eq_zero_of_le (Nat.succ_le_of_lt h)]
      simp [pick]
    · rw [if_neg h, Nat.succ_sub (Nat.le_of_not_lt h), List.take_succ_cons, List.filter_cons, ih]
      cases stoppable c <;> cases ko <;> simp [pick]

/-- `supARFO.childrenForTermination`, in terms of the spec slice itself: the children of the enabled specs
at positions ≥ restartI that are running, in REVERSE spec order (all of them, or only the last one with KeepOrder) -/
theorem forTermination_eq (rI : Nat) (ko : Bool) (l : List ChildSpec) :
    ARFO.forTermination rI ko l.reverse (l.length - 1) =
      pick ko ((((l.drop rI).filter stoppable).map (·.pid)).reverse) := by
  rw [← List.map_reverse, ← List.filter_reverse, List.reverse_drop, ← List.length_reverse]
  exact forTermination_rev rI ko l.reverse

end ErgoVerif.Sup
