import ErgoVerif.Model.Handshake
/-! basic facts about the term algebra, the digest sites of the current source evaluated once, and what the adversary
    can derive (`hash_cookie_known`) -/
namespace ErgoVerif.Handshake
open ErgoVerif.Generated

theorem Atoms.toList_ofList (l : List Atom) : (Atoms.ofList l).toList = l := by
  induction l <;> simp [Atoms.ofList, Atoms.toList, *]

/-- SHA-256 is modelled as injective -/
@[simp] theorem H_inj {l1 l2 : List Atom} : H l1 = H l2 ↔ l1 = l2 := by
  constructor
  · intro h
    simp only [H, Atom.hash.injEq] at h
    simpa [Atoms.toList_ofList] using congrArg Atoms.toList h
  · intro h; rw [h]

@[simp] theorem H_ne_nonce (l : List Atom) (n : Nat) : H l ≠ .nonce n := by simp [H]
@[simp] theorem H_ne_cookie (l : List Atom) (n : Nat) : H l ≠ .cookie n := by simp [H]
@[simp] theorem cookie_ne_H (l : List Atom) (n : Nat) : Atom.cookie n ≠ H l := by simp [H]

theorem sizeOf_lt_of_mem {a : Atom} {l : List Atom} (h : a ∈ l) : sizeOf a < sizeOf (Atoms.ofList l) := by
  induction l with
  | nil => cases h
  | cons b l ih =>
    simp only [Atoms.ofList, Atoms.cons.sizeOf_spec]
    rcases List.mem_cons.mp h with rfl | h
    · omega
    · have := ih h; omega

theorem H_ne_of_mem {a : Atom} {l : List Atom} (h : a ∈ l) : H l ≠ a := fun e => by
  have := sizeOf_lt_of_mem h
  simp only [← e, H, Atom.hash.sizeOf_spec] at this
  omega

theorem Atoms.occurs_ofList (x : Nat) (l : List Atom) :
    (Atoms.ofList l).occurs x = l.any (·.occurs x) := by
  induction l with
  | nil => simp [Atoms.ofList, Atoms.occurs]
  | cons a as ih => simp [Atoms.ofList, Atoms.occurs, ih]

@[simp] theorem occurs_H (x : Nat) (l : List Atom) : (H l).occurs x = l.any (·.occurs x) := by
  simp [H, Atom.occurs, Atoms.occurs_ofList]

@[simp] theorem occurs_nonce (x n : Nat) : (Atom.nonce n).occurs x = (n == x) := by simp [Atom.occurs]
@[simp] theorem occurs_cookie (x n : Nat) : (Atom.cookie n).occurs x = false := by simp [Atom.occurs]

theorem Atoms.ofList_toList : ∀ as : Atoms, Atoms.ofList as.toList = as
  | .nil => rfl
  | .cons a as => by simp [Atoms.toList, Atoms.ofList, Atoms.ofList_toList as]

theorem hash_eq_H (as : Atoms) : Atom.hash as = H as.toList := by
  simp [H, Atoms.ofList_toList]

theorem setDigest_of_site {fn : Hs.Fn} {ctx : Hs.Ctx} {field : Hs.Field} {s : Hs.Site}
    (h : site fn ctx .set field = some s) (e : Env) :
    setDigest fn ctx field e = [H (s.args.flatMap e.get)] := by
  simp only [setDigest, h, digestOf]

theorem checkOk_of_site {fn : Hs.Fn} {ctx : Hs.Ctx} {field : Hs.Field} {s : Hs.Site}
    (h : site fn ctx .cmp field = some s) (e : Env) (r : Field) :
    checkOk fn ctx field e r = (r == [H (s.args.flatMap e.get)]) := by
  simp only [checkOk, h, digestOf]

/- the digest sites of the current source (Generated/Hs.lean): the site is looked up by evaluating the table (`rfl`);
   if the source changes which values are hashed, or their order, or drops a check, these stop being provable -/
section sites
variable (e : Env)

@[simp] theorem start_hello_digest : setDigest .start .top .helloDigest e = [H (e.ownSalt ++ e.cookie)] := by
  rw [setDigest_of_site rfl]; simp [Env.get]
@[simp] theorem start_check_hello (r : Field) :
    checkOk .start .top .helloDigest e r = (r == [H (e.peerSalt ++ e.ownDigest ++ e.cookie)]) := by
  rw [checkOk_of_site rfl]; simp [Env.get]
@[simp] theorem start_intro_digest : setDigest .start .top .introDigest e = [H (e.peerSalt ++ e.cookie)] := by
  rw [setDigest_of_site rfl]; simp [Env.get]
@[simp] theorem accept_check_hello (r : Field) :
    checkOk .accept .hello .helloDigest e r = (r == [H (e.peerSalt ++ e.cookie)]) := by
  rw [checkOk_of_site rfl]; simp [Env.get]
@[simp] theorem accept_hello_digest :
    setDigest .accept .hello .helloDigest e = [H (e.ownSalt ++ e.peerDigest ++ e.cookie)] := by
  rw [setDigest_of_site rfl]; simp [Env.get]
@[simp] theorem accept_check_intro (r : Field) :
    checkOk .accept .top .introDigest e r = (r == [H (e.ownSalt ++ e.cookie)]) := by
  rw [checkOk_of_site rfl]; simp [Env.get]
@[simp] theorem accept_check_join (r : Field) :
    checkOk .accept .join .joinDigest e r = (r == [H (e.connId ++ e.peerSalt ++ e.cookie)]) := by
  rw [checkOk_of_site rfl]; simp [Env.get]
@[simp] theorem accept_join_digest :
    setDigest .accept .join .acceptDigest e = [H (e.peerDigest ++ e.cookie)] := by
  rw [setDigest_of_site rfl]; simp [Env.get]
@[simp] theorem join_digest : setDigest .join .top .joinDigest e = [H (e.connId ++ e.ownSalt ++ e.cookie)] := by
  rw [setDigest_of_site rfl]; simp [Env.get]
@[simp] theorem join_check_accept (r : Field) :
    checkOk .join .top .acceptDigest e r = (r == [H (e.ownDigest ++ e.cookie)]) := by
  rw [checkOk_of_site rfl]; simp [Env.get]
end sites

theorem cookie_secret {K : Atom → Prop} {adv : Nat → Prop} {c : Nat} (hk : ¬ K (.cookie c)) :
    ¬ Derivable K adv (.cookie c) := by
  intro h
  generalize hx : Atom.cookie c = x at h
  cases h with
  | ax h => exact hk (hx ▸ h)
  | own _ => cases hx
  | hash _ => simp [H] at hx

theorem Derivable.mono {K K' : Atom → Prop} {adv : Nat → Prop} (hkk : ∀ t, K t → K' t) {t : Atom}
    (h : Derivable K adv t) : Derivable K' adv t := by
  induction h with
  | ax h => exact .ax (hkk _ h)
  | own h => exact .own h
  | hash _ ih => exact .hash ih

theorem hash_cookie_known {K : Atom → Prop} {adv : Nat → Prop} {c : Nat} (hk : ¬ K (.cookie c))
    {l : List Atom} (hc : .cookie c ∈ l) (h : Derivable K adv (H l)) : K (H l) := by
  generalize hx : H l = x at h
  cases h with
  | ax h => exact h
  | own _ => simp [H] at hx
  | hash h' =>
    -- built by hashing: then every argument, the cookie among them, was derivable
    cases H_inj.mp hx
    exact absurd (h' _ hc) (cookie_secret hk)

end ErgoVerif.Handshake
