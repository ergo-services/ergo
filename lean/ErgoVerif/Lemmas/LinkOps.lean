import ErgoVerif.Model.LinkOps
import ErgoVerif.Lemmas.TM
/-!
The node-level link/monitor operations (`Model/LinkOps.lean`) keep the TargetManager's index invariant, and draining a
list of targets removes exactly the relations on them (`goneAll_spec`).
-/
namespace ErgoVerif.LinkOps
open ErgoVerif.TM

theorem addRel_inv (w : World) (k : Key) (h : Inv w.tm) : Inv (addRel w k).1.tm := by
  unfold addRel
  split
  · exact add_inv k h
  · exact h

theorem delRel_inv (w : World) (k : Key) (h : Inv w.tm) : Inv (delRel w k).1.tm := by
  unfold delRel
  exact remove_inv k h

theorem goneAll_spec (ts : List Target) (w : World) (h : Inv w.tm) :
    Inv (goneAll w ts).1.tm ∧ (goneAll w ts).1.tm.rel = w.tm.rel.filter (fun k => !decide (k.target ∈ ts)) := by
  fun_induction goneAll w ts
  · exact ⟨h, (List.filter_eq_self.mpr (by simp)).symm⟩
  · next w t ts r r2 ih =>
    obtain ⟨hi, hr⟩ := ih (cleanupTarget_inv h t)
    refine ⟨hi, hr.trans ?_⟩
    show ((cleanupTarget w.tm t).1.rel.filter _) = _
    rw [cleanupTarget_rel h, List.filter_filter]
    apply List.filter_congr
    intro k _
    simp [Bool.and_comm]

theorem step_inv (w : World) (o : Op) (h : Inv w.tm) : Inv (step w o).1.tm := by
  cases o with
  | create t => exact h
  | link c t => exact addRel_inv w _ h
  | unlink c t => exact delRel_inv w _ h
  | monitor c t => exact addRel_inv w _ h
  | demonitor c t => exact delRel_inv w _ h
  | gone t => exact cleanupTarget_inv h t
  | terminate p owned =>
    simp only [step]
    exact cleanupConsumer_inv (goneAll_spec _ w h).1 p

theorem runOps_inv (ops : List Op) {w : World} (h : Inv w.tm) : Inv (runOps w ops).tm := by
  fun_induction runOps w ops
  · exact h
  · next ih => exact ih (step_inv _ _ h)

end ErgoVerif.LinkOps
