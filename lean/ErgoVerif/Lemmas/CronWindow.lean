/-
Schedule / JobSchedule: the minutes of the window (a run of consecutive minutes, `window_eq`) and what is listed for them.
`minuteNs` is unfolded throughout this file because `omega` needs the literal.
-/
import ErgoVerif.Model.CronSched
namespace ErgoVerif.CronSched

/-- minute m (as an instant: m·60 s) lies in [since truncated to the minute, that + period) -/
def inWindow (sinceNs periodNs m : Int) : Prop :=
  sinceNs / minuteNs ≤ m ∧ m * minuteNs < (sinceNs / minuteNs) * minuteNs + periodNs

/-- the loop's list is the arithmetic progression from `now` in steps of a minute, as far as it stays below `e`
    (and the fuel lasts) -/
theorem windowLoop_eq (fuel : Nat) (now e : Int) :
    ∃ n : Nat, windowLoop now e fuel = (List.range n).map (fun i : Nat => now + i * minuteNs) ∧
      ∀ i : Nat, i < n ↔ i < fuel ∧ now + i * minuteNs < e := by
  induction fuel generalizing now with
  | zero => exact ⟨0, rfl, fun i => by omega⟩
  | succ fuel ih =>
    rw [windowLoop]
    split
    · rename_i hlt
      obtain ⟨n, h1, h2⟩ := ih (now + minuteNs)
      refine ⟨n + 1, ?_, fun i => ?_⟩
      · rw [h1, List.range_succ_eq_map, List.map_cons, List.map_map]
        congr 1
        · simp
        · exact List.map_congr_left fun i _ => by simp only [Function.comp]; unfold minuteNs; omega
      · cases i with
        | zero => simpa using hlt
        | succ j => rw [Nat.succ_lt_succ_iff, Nat.succ_lt_succ_iff, h2]; unfold minuteNs; omega
    · exact ⟨0, rfl, fun i => by unfold minuteNs at *; omega⟩

/-- the window is the run of consecutive minutes from the minute of `since`, one for every whole-minute step below
    the period (which the fuel, the period in nanoseconds, always covers) -/
theorem window_eq (sinceNs periodNs : Int) :
    ∃ n : Nat, window sinceNs periodNs = (List.range n).map (fun i : Nat => sinceNs / minuteNs + i) ∧
      ∀ i : Nat, i < n ↔ i * minuteNs < periodNs := by
  obtain ⟨n, h1, h2⟩ := windowLoop_eq periodNs.toNat (sinceNs / minuteNs * minuteNs)
    (sinceNs / minuteNs * minuteNs + periodNs)
  refine ⟨n, ?_, fun i => by rw [h2]; unfold minuteNs; omega⟩
  rw [window, windowNs, h1, List.map_map]
  exact List.map_congr_left fun i _ => by simp only [Function.comp]; unfold minuteNs; omega

theorem mem_window (sinceNs periodNs m : Int) : m ∈ window sinceNs periodNs ↔ inWindow sinceNs periodNs m := by
  obtain ⟨n, h1, h2⟩ := window_eq sinceNs periodNs
  simp only [h1, List.mem_map, List.mem_range, h2, inWindow]
  constructor
  · rintro ⟨i, hi, rfl⟩; unfold minuteNs at *; omega
  · rintro ⟨h1, h2⟩; exact ⟨(m - sinceNs / minuteNs).toNat, by unfold minuteNs at *; omega, by omega⟩

theorem window_sorted (sinceNs periodNs : Int) : (window sinceNs periodNs).Pairwise (· < ·) := by
  obtain ⟨n, h1, -⟩ := window_eq sinceNs periodNs
  rw [h1, List.pairwise_map]
  exact List.pairwise_lt_range.imp fun h => by omega

theorem jobSchedule_spec (civil : CivilFn) (s : Sched) (name : Nat) (sinceNs periodNs : Int) (l : List Int)
    (h : jobSchedule civil s name sinceNs periodNs = some l) :
    ∃ p, findJob s name = some p ∧ l.Pairwise (· < ·) ∧
      ∀ m, m ∈ l ↔ inWindow sinceNs periodNs m ∧ runsAt civil (s.objs p) m = true := by
  unfold jobSchedule at h
  simp only [Option.map_eq_some_iff] at h
  obtain ⟨p, hp, rfl⟩ := h
  refine ⟨p, hp, (window_sorted sinceNs periodNs).filter _, fun m => ?_⟩
  simp [List.mem_filter, mem_window]

theorem jobSchedule_none (civil : CivilFn) (s : Sched) (name : Nat) (sinceNs periodNs : Int) :
    jobSchedule civil s name sinceNs periodNs = none ↔ findJob s name = none := by
  simp [jobSchedule]

theorem scheduleList_spec (civil : CivilFn) (s : Sched) (sinceNs periodNs : Int) (m : Int) (js : List Nat) :
    (m, js) ∈ scheduleList civil s sinceNs periodNs ↔
      inWindow sinceNs periodNs m ∧ js = s.jobs.filter (fun p => runsAt civil (s.objs p) m) ∧ js ≠ [] := by
  simp only [scheduleList, List.mem_filterMap, mem_window, Option.ite_none_left_eq_some, Option.some.injEq,
    Prod.mk.injEq, List.isEmpty_iff]
  constructor
  · rintro ⟨m', hw, hne, rfl, rfl⟩; exact ⟨hw, rfl, hne⟩
  · rintro ⟨hw, rfl, hne⟩; exact ⟨m, hw, hne, rfl, rfl⟩

end ErgoVerif.CronSched
