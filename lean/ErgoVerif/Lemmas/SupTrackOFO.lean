import ErgoVerif.Lemmas.SupLoopOFO
/-
One-for-one: the state machine keeps track of exactly the children in `Supervisor.children` — the invariant
`OFO.TInv m kids` under every method of the machine.  The one exclusion (D26): EnableChild for a spec whose previous
child still has an entry in the table (`childEnable_track`).  The clauses about pids say that in normal operation the
table and the slice describe one relation, `(p, n) ∈ kids ↔ Runs m.spec n p` (`TInv.tracks`; `Runs l n p`: spec `n` has the
child `p`, `SupSlice`): a method keeps them when it does to the slice what the glue does to the table.  For the exit of a
child the step follows from the decision table (`track_of_meets`).  The loop of handleAction, the steps and the histories of
the closed system are in `SupTrackOFO2`.
-/
namespace ErgoVerif.Sup

/-- the tracking invariant of supOFO relative to `Supervisor.children`.  `nz`: the empty name is that of a foreign exit and
must hit no spec; `pinj`: a pid is the child of one spec, so an exit clears one spec -/
structure OFO.TInv (m : OFO) (kids : List (Nat × Nat)) : Prop where
  names : (m.spec.map (·.name)).Nodup
  nz : ∀ c, c ∈ m.spec → c.name ≠ 0
  pinj : ∀ c1 c2, c1 ∈ m.spec → c2 ∈ m.spec → c1.pid = c2.pid → c1.pid ≠ 0 → c1 = c2
  normal : m.shutdown = false →
    (∀ p, p ∈ keys kids ↔ (p ≠ 0 ∧ ∃ c, c ∈ m.spec ∧ c.pid = p)) ∧
    (∀ p n, (p, n) ∈ kids → ∃ c, c ∈ m.spec ∧ c.name = n ∧ c.pid = p)
  shut : m.shutdown = true → (∀ p, p ∈ m.wait ↔ p ∈ keys kids) ∧ m.shutdownReason ≠ none

/-- a supervisor that is shutting down has someone to wait for: it cannot hang -/
def OFO.Live (m : OFO) (kids : List (Nat × Nat)) : Prop := m.shutdown = true → ∃ p, p ∈ keys kids

/-- what an action must satisfy so that carrying it out keeps the tracking invariant.  An end asks `shutdown → reason`
where `SOFO.Good` (`SupLoopSOFO`) asks both: `stopAll` with nobody running ends the supervisor without setting `shutdown` -/
def OFO.TGood (m : OFO) (kids : List (Nat × Nat)) (a : Action) : Prop :=
  match a.act with
  | .nothing => OFO.Live m kids
  | .start => m.shutdown = false ∧ OFO.ValidStart m a ∧ ∃ c : ChildSpec, m.spec[a.spec.i]? = some c ∧ c.pid = 0
  | .terminateChildren =>
      (a.terminate.isEmpty → ∀ e, a.reason = some e → ((m.shutdown = true → m.shutdownReason = some e) ∧ ∀ p, p ∉ keys kids)) ∧
      ((a.terminate.isEmpty = false ∨ a.reason = none) → OFO.Live m kids)
  | .terminate => a.reason ≠ none ∧ ∀ e, a.reason = some e → ((m.shutdown = true → m.shutdownReason = some e) ∧ ∀ p, p ∉ keys kids)

/-- the `.start` clause of `OFO.TGood` -/
def OFO.TStart (m : OFO) (a : Action) : Prop :=
  m.shutdown = false ∧ OFO.ValidStart m a ∧ ∃ c : ChildSpec, m.spec[a.spec.i]? = some c ∧ c.pid = 0

/-- beyond `GoodAct`, tracking asks that an end has a reason -/
theorem OFO.tgood_iff (m : OFO) (kids : List (Nat × Nat)) (a : Action) :
    OFO.TGood m kids a ↔ GoodAct (OFO.Live m kids) (OFO.TStart m a)
      (fun e => (m.shutdown = true → m.shutdownReason = some e) ∧ ∀ p, p ∉ keys kids) a ∧
      (a.act = .terminate → a.reason ≠ none) := by
  unfold OFO.TGood GoodAct
  cases a.act
  case terminate => exact ⟨fun ⟨hr, hd⟩ => ⟨⟨fun hn => absurd hn hr, hd⟩, fun _ => hr⟩, fun ⟨⟨_, hd⟩, hr⟩ => ⟨hr rfl, hd⟩⟩
  all_goals exact ⟨fun h => ⟨h, nofun⟩, And.left⟩

def OFO.TStep (kids : List (Nat × Nat)) (o : OFO × Res) : Prop :=
  OFO.TInv o.1 kids ∧ ∃ a, o.2 = .ok a ∧ OFO.TGood o.1 kids a

theorem OFO.TInv.uniq {m : OFO} {kids : List (Nat × Nat)} (h : OFO.TInv m kids) (n1 n2 p : Nat) :
    Runs m.spec n1 p → Runs m.spec n2 p → n1 = n2 := by
  rintro ⟨hp, c1, h1, rfl, e1⟩ ⟨_, c2, h2, rfl, e2⟩
  rw [h.pinj c1 c2 h1 h2 (e1.trans e2.symm) (e1 ▸ hp)]

theorem OFO.TInv.tracks {m : OFO} {kids : List (Nat × Nat)} (h : OFO.TInv m kids) (hsd : m.shutdown = false)
    (p n : Nat) : (p, n) ∈ kids ↔ Runs m.spec n p := by
  have ⟨hA, hB⟩ := h.normal hsd
  refine ⟨fun hpn => ⟨((hA p).mp ((mem_keys _ _).mpr ⟨n, hpn⟩)).1, hB p n hpn⟩, fun hr => ?_⟩
  -- the child is in the table under some name, which is that of the one spec that has it
  obtain ⟨n', hn'⟩ := (mem_keys _ _).mp ((hA p).mpr ⟨hr.1, hr.2.imp fun _ hc => ⟨hc.1, hc.2.2⟩⟩)
  rwa [h.uniq n' n p ⟨hr.1, hB p n' hn'⟩ hr] at hn'

theorem runningPids_tracked {l : List ChildSpec} {kids : List (Nat × Nat)} (hK : ∀ p n, (p, n) ∈ kids ↔ Runs l n p)
    (p : Nat) : p ∈ runningPids l ↔ p ∈ keys kids := by
  simp only [mem_runningPids, mem_keys, hK]
  exact ⟨fun ⟨hp0, c, hc, e⟩ => ⟨c.name, hp0, c, hc, rfl, e⟩, fun ⟨_, hp0, c, hc, _, e⟩ => ⟨hp0, c, hc, e⟩⟩

theorem OFO.tinv_of_runs {m : OFO} {kids : List (Nat × Nat)} (hnames : (m.spec.map (·.name)).Nodup)
    (hnz : ∀ c, c ∈ m.spec → c.name ≠ 0)
    (huniq : ∀ n1 n2 p, Runs m.spec n1 p → Runs m.spec n2 p → n1 = n2)
    (hnormal : m.shutdown = false → ∀ p n, (p, n) ∈ kids ↔ Runs m.spec n p)
    (hshut : m.shutdown = true → (∀ p, p ∈ m.wait ↔ p ∈ keys kids) ∧ m.shutdownReason ≠ none) :
    OFO.TInv m kids := by
  refine ⟨hnames, hnz, fun c1 c2 h1 h2 he hne => ?_, fun hsd => ?_, hshut⟩
  · exact spec_unique hnames h1 h2 (huniq _ _ c1.pid ⟨hne, c1, h1, rfl, rfl⟩ ⟨hne, c2, h2, rfl, he.symm⟩)
  · exact ⟨fun p => (runningPids_tracked (hnormal hsd) p).symm.trans (mem_runningPids ..),
      fun p n hpn => ((hnormal hsd p n).mp hpn).2⟩

theorem nz_of_names {l l' : List ChildSpec} (hn : l'.map (·.name) = l.map (·.name)) (h : ∀ c, c ∈ l → c.name ≠ 0)
    (c' : ChildSpec) (hc' : c' ∈ l') : c'.name ≠ 0 := by
  obtain ⟨c, hc, e⟩ := List.mem_map.mp (hn ▸ List.mem_map_of_mem hc' : c'.name ∈ l.map (·.name))
  exact e ▸ h c hc

/-- the exit of a known child hits only its own spec: another spec of that name does not exist, another spec with that
pid has it by definition of `hit` -/
theorem OFO.hit_known (m : OFO) (kids : List (Nat × Nat)) (h : OFO.TInv m kids) (hsd : m.shutdown = false)
    (n pid : Nat) (hk : (pid, n) ∈ kids) (c : ChildSpec) (hc : c ∈ m.spec) (hh : hit n pid c = true) : c.pid = pid := by
  obtain ⟨c0, hc0, hn0, hp0⟩ := (h.normal hsd).2 pid n hk
  rcases hit_iff.mp hh with hn | hp
  · rw [spec_unique h.names hc hc0 (hn.trans hn0.symm)]; exact hp0
  · exact hp

/-- the children the scan has counted are those the scanned slice records: the stop list of `intensityStep` and the one
of `stopAll` are the same list -/
theorem scan_running_eq_runningPids (name pid k : Nat) (l : List ChildSpec) :
    (scan name pid k l).running = runningPids (scan name pid k l).spec := by
  induction l generalizing k with
  | nil => rfl
  | cons c t ih =>
    rw [scan_cons]
    split
    · exact (ih (k + 1)).trans (by simp [runningPids])
    · by_cases hp : c.pid = 0 <;> simp [runningPids, hp, ih (k + 1)]

/-- the tracking step follows from the decision table (a restart is a good action by `hstart`), whenever slice and
count are those of a scan that tracks `kids` (`hT`, `hrun`: `tinv_of_scan`, `scan_running`) -/
theorem OFO.track_of_meets {d : Spec.Sup.Decision} {c : ChildSpec} {sc : Scan} {s' : OFO} {res : Res}
    {kids : List (Nat × Nat)} (hm : OFO.Meets d c sc s' res)
    (hT : (s'.shutdown = true → s'.wait = mkSet sc.running ∧ s'.shutdownReason ≠ none) → OFO.TInv s' kids)
    (hrun : ∀ p, p ∈ sc.running ↔ p ∈ keys kids) (hrp : sc.running = runningPids sc.spec)
    (hstart : d = .restart → s'.shutdown = false → OFO.TGood s' kids { act := .start, spec := c }) :
    OFO.TStep kids (s', res) := by
  -- the two shapes an answer has: the supervisor goes on in normal operation, or it starts to shut down
  have normal : s'.shutdown = false → ∀ a, OFO.TGood s' kids a → OFO.TStep kids (s', .ok a) :=
    fun h0 a ha => ⟨hT (fun hx => (nomatch h0.symm.trans hx)), a, rfl, ha⟩
  have stop : ∀ e : Reason, s'.shutdownReason = some e → s'.wait = mkSet sc.running →
      OFO.TStep kids (s', .ok { act := .terminateChildren, terminate := sc.running, reason := some e }) :=
    fun e hr hw => ⟨hT (fun _ => ⟨hw, by simp [hr]⟩), _, rfl,
      (OFO.tgood_iff ..).mpr ⟨GoodAct.stop hrun (fun h _ => h) (fun h => ⟨fun _ => hr, h⟩), nofun⟩⟩
  cases d with
  | ignore => obtain ⟨rfl, h0⟩ := hm; exact normal h0 _ (fun hx => (nomatch h0.symm.trans hx))
  | restart => obtain ⟨rfl, h0⟩ := hm; exact normal h0 _ (hstart rfl h0)
  | giveUp => obtain ⟨rfl, _, hr, hw⟩ := hm; rw [← hrp]; exact stop _ hr hw
  | stopAll r =>
    simp only [OFO.Meets] at hm
    split at hm
    · rename_i hlen
      obtain ⟨rfl, h0⟩ := hm
      refine normal h0 _ ⟨by simp, fun _ _ => ⟨fun hx => (nomatch h0.symm.trans hx), fun p hp => ?_⟩⟩
      have := (hrun p).mpr hp
      rw [List.length_eq_zero_iff.mp hlen] at this
      exact absurd this List.not_mem_nil
    · obtain ⟨rfl, _, hr, hw⟩ := hm; exact stop _ hr hw

section scanned
variable (m : OFO) (kids : List (Nat × Nat)) (h : OFO.TInv m kids) (hsd : m.shutdown = false)
  (n pid : Nat) (hhit : ∀ c, c ∈ m.spec → hit n pid c = true → c.pid = pid)
include h hsd hhit

/-- the scan does to the slice what the dispatch has done to the table: the dead child has left both.
`hhit`: the exit hits only specs whose child is the dead one (the spec of a known child: `hit_known`; no spec at all
for a foreign exit: `ct_track_foreign`) -/
theorem OFO.scan_tracks (p n' : Nat) :
    (p, n') ∈ kids.filter (fun x => x.1 ≠ pid) ↔ Runs (scan n pid 0 m.spec).spec n' p := by
  rw [runs_scan hhit, ← h.tracks hsd, List.mem_filter, decide_eq_true_eq]

theorem OFO.scan_running (p : Nat) :
    p ∈ (scan n pid 0 m.spec).running ↔ p ∈ keys (kids.filter (fun x => x.1 ≠ pid)) := by
  rw [scan_running_eq_runningPids]
  exact runningPids_tracked (OFO.scan_tracks m kids h hsd n pid hhit) p

theorem OFO.tinv_of_scan (m' : OFO) (hs : m'.spec = (scan n pid 0 m.spec).spec)
    (hw : m'.shutdown = true → m'.wait = mkSet (scan n pid 0 m.spec).running ∧ m'.shutdownReason ≠ none) :
    OFO.TInv m' (kids.filter (fun x => x.1 ≠ pid)) := by
  have hn : m'.spec.map (·.name) = m.spec.map (·.name) := by rw [hs]; exact scan_map _ (fun _ => rfl) ..
  refine OFO.tinv_of_runs (hn ▸ h.names) (nz_of_names hn h.nz) (fun n1 n2 p h1 h2 => ?_)
    (fun _ p n' => hs ▸ OFO.scan_tracks m kids h hsd n pid hhit p n') (fun hx => ⟨fun p => ?_, (hw hx).2⟩)
  · rw [hs, runs_scan hhit] at h1 h2
    exact h.uniq n1 n2 p h1.1 h2.1
  · rw [(hw hx).1, mem_mkSet]; exact OFO.scan_running m kids h hsd n pid hhit p

theorem OFO.ct_track (hidx : ∀ j sp, (scan n pid 0 m.spec).found = some (j, sp) → sp.i = j) (r : Reason) (now : Int) :
    OFO.TStep (kids.filter (fun x => x.1 ≠ pid)) (m.childTerminated n pid r now) := by
  have hspec := OFO.spec_after m n pid r now hsd
  have hT := OFO.tinv_of_scan m kids h hsd n pid hhit _ hspec
  have hrun := OFO.scan_running m kids h hsd n pid hhit
  cases hf : (scan n pid 0 m.spec).found with
  | none =>
    have hm := OFO.stopAll_meets { m with wait := sdel pid m.wait, spec := (scan n pid 0 m.spec).spec } (scan n pid 0 m.spec) {} r hsd
    rw [← OFO.childTerminated_stranger m n pid r now hsd hf] at hm
    exact OFO.track_of_meets hm hT hrun (scan_running_eq_runningPids ..) (fun hd => nomatch hd)
  | some x =>
    obtain ⟨j, sp⟩ := x
    obtain ⟨d, hm⟩ := OFO.found_meets m n pid r now hsd hf
    refine OFO.track_of_meets hm hT hrun (scan_running_eq_runningPids ..) fun _ h0 => ?_
    -- a restart of `sp` is valid: it sits, without a pid, at its own index in the scanned slice
    have hat : (m.childTerminated n pid r now).1.spec[sp.i]? = some sp := by
      rw [hidx j sp hf, hspec]; exact (scan_found_at hf).1
    exact ⟨h0, ⟨_, hat, rfl⟩, _, hat, (scan_found_at hf).2.1⟩

end scanned

theorem OFO.ct_track_foreign (m : OFO) (kids : List (Nat × Nat)) (h : OFO.TInv m kids) (hsd : m.shutdown = false)
    (np : Nat) (hnp0 : np ≠ 0) (hfresh : ∀ p, p ∈ keys kids → p < np) (r : Reason) (now : Int) :
    OFO.TStep kids (m.childTerminated 0 np r now) := by
  -- the exit hits no spec: the empty name is no spec's (`nz`), the fresh pid no child's
  have hno : ∀ c, c ∈ m.spec → hit 0 np c ≠ true := fun c hc hh =>
    (hit_iff.mp hh).elim (h.nz c hc) fun hp =>
      Nat.lt_irrefl _ (hfresh np (((h.normal hsd).1 np).mpr ⟨hnp0, c, hc, hp⟩))
  have := OFO.ct_track m kids h hsd 0 np (fun c hc hh => absurd hh (hno c hc))
    (fun j sp hf => by
      obtain ⟨_, d0, hd0, hh, _⟩ := scan_found_some 0 np 0 m.spec j sp hf
      exact absurd hh (hno d0 (List.mem_of_getElem? hd0))) r now
  rwa [filter_fresh kids np hfresh] at this

theorem OFO.ct_track_shut (m : OFO) (kids : List (Nat × Nat)) (h : OFO.TInv m kids) (hsd : m.shutdown = true)
    (n pid : Nat) (r : Reason) (now : Int) :
    OFO.TStep (kids.filter (fun x => x.1 ≠ pid)) (m.childTerminated n pid r now) := by
  have ⟨h1, h2⟩ := h.shut hsd
  have hw := wait_step h1 pid
  rw [OFO.childTerminated_shut m n pid r now hsd]
  exact ⟨⟨h.names, h.nz, h.pinj, fun hx => (nomatch hsd.symm.trans hx), fun _ => ⟨hw, h2⟩⟩, _, rfl,
    (OFO.tgood_iff ..).mpr ⟨GoodAct.waiting hw h2 (fun h _ => h) (fun e he h => ⟨fun _ => he, h⟩), by split <;> simp [h2]⟩⟩

theorem OFO.childStarted_track (m : OFO) (kids : List (Nat × Nat)) (h : OFO.TInv m kids) (a : Action)
    (hg : OFO.TStart m a) (np : Nat) (hnp0 : np ≠ 0) (hfresh : ∀ p, p ∈ keys kids → p < np) :
    OFO.TInv (m.childStarted a.spec np).1 ((np, a.spec.name) :: kids) ∧
    ∃ a', (m.childStarted a.spec np).2 = .ok a' ∧ OFO.TGood (m.childStarted a.spec np).1 ((np, a.spec.name) :: kids) a' ∧
      (a'.act = .nothing ∨ a'.act = .start) := by
  obtain ⟨hsd, ⟨sp, hsp, hn⟩, c0, hc0, hz⟩ := hg
  have hsp0 : sp.pid = 0 := Option.some.inj (hsp.symm.trans hc0) ▸ hz
  obtain ⟨md, a', hc, _, ha'⟩ := OFO.childStarted_accepts m np hsp hn
  rw [hc]
  refine ⟨?_, a', rfl, ?_, ha'.imp id (·.1)⟩
  · -- the fresh pid is recorded at the place of `sp`, which had no child, and is the child of no other spec
    have hnm : (m.spec.set a.spec.i { sp with args := a.spec.args, pid := np }).map (·.name) = m.spec.map (·.name) :=
      set_map _ hsp rfl
    have hK := h.tracks hsd
    have hr := runs_set (e := { sp with args := a.spec.args, pid := np }) hsp hsp0
    have hnew : ∀ n', ¬ Runs m.spec n' np := fun n' hx =>
      Nat.lt_irrefl _ (hfresh _ ((mem_keys _ _).mpr ⟨n', (hK _ _).mpr hx⟩))
    refine OFO.tinv_of_runs (hnm ▸ h.names) (nz_of_names hnm h.nz) (fun n1 n2 p h1 h2 => ?_)
      (fun _ p n' => ?_) (fun hx => (nomatch hsd.symm.trans hx))
    · have h1 := (hr n1 p).mp h1
      have h2 := (hr n2 p).mp h2
      rcases h1 with h1 | ⟨_, rfl, rfl⟩ <;> rcases h2 with h2 | ⟨_, rfl, e2⟩
      · exact h.uniq n1 n2 p h1 h2
      · exact absurd (e2 ▸ h1) (hnew _)
      · exact absurd h2 (hnew _)
      · rfl
    · -- the new entry of the table is the new child of the slice
      rw [List.mem_cons, hr, hK, Prod.mk.injEq, or_comm]
      exact or_congr_right ⟨fun ⟨e1, e2⟩ => ⟨e1 ▸ hnp0, hn.trans e2.symm, e1.symm⟩,
        fun ⟨_, e2, e1⟩ => ⟨e1.symm, e2.symm.trans hn⟩⟩
  · rcases ha' with ha' | ⟨ha', _, c, hc1, hc2, hc3⟩
    · simp only [OFO.TGood, ha']; exact fun hx => (nomatch hsd.symm.trans hx)
    · simp only [OFO.TGood, ha']; exact ⟨hsd, ⟨c, hc1, hc2⟩, c, hc1, hc3⟩

/-- the tracking invariant looks at the slice only through the names and pids of its specs -/
theorem OFO.tinv_of_pairs {m m' : OFO} {kids : List (Nat × Nat)} (h : OFO.TInv m kids)
    (hs : m'.spec.map (fun c => (c.name, c.pid)) = m.spec.map (fun c => (c.name, c.pid)))
    (hsd : m'.shutdown = m.shutdown) (hw : m'.wait = m.wait) (hr : m'.shutdownReason = m.shutdownReason) :
    OFO.TInv m' kids := by
  have hn : m'.spec.map (·.name) = m.spec.map (·.name) := by
    have := congrArg (List.map Prod.fst) hs
    simpa [List.map_map, Function.comp_def] using this
  have hrs := runs_of_pairs hs
  refine OFO.tinv_of_runs (hn ▸ h.names) (nz_of_names hn h.nz) ?_ (fun hx => ?_) (fun hx => ?_)
  · simp only [hrs]; exact h.uniq
  · simp only [hrs]; exact h.tracks (hsd ▸ hx)
  · rw [hw, hr]; exact h.shut (hsd ▸ hx)

/-- what the closed system needs of the answer `r` to a method (`api`: a management call) for tracking to go on -/
def OFO.TAnswer (kids : List (Nat × Nat)) (api : Bool) (r : OFO × Res) : Prop :=
  OFO.TInv r.1 kids ∧ r.2.Good fun a => OFO.TGood r.1 kids a ∧ (api = true → ApiOK a)

theorem OFO.TAnswer.refused {m : OFO} {kids : List (Nat × Nat)} (e : Err) (h : OFO.TInv m kids) (hl : OFO.Live m kids) :
    OFO.TAnswer kids true (m, .err e) :=
  ⟨h, hl, fun _ => ⟨nofun, nofun⟩⟩

theorem OFO.TStep.tanswer {kids : List (Nat × Nat)} {o : OFO × Res} (h : OFO.TStep kids o) :
    OFO.TAnswer kids false o := by
  obtain ⟨ht, a, ha, hg⟩ := h
  exact ⟨ht, by rw [ha]; exact ⟨hg, by simp⟩⟩

theorem OFO.childSpec_track (m : OFO) (kids : List (Nat × Nat)) (h : OFO.TInv m kids) (hwf : OFO.WF m)
    (hl : OFO.Live m kids) (name args : Nat) : OFO.TAnswer kids true (withArgs args (m.childSpec name)) := by
  rcases OFO.childSpec_cases m name with ⟨e, he⟩ | ⟨c, hc, hf, hp, hsd⟩
  · rw [he]; exact .refused e h hl
  · rw [hc, withArgs_ok]
    have hat := findName_at hf hwf.idx
    exact ⟨h, ⟨hsd, ⟨c, hat, rfl⟩, c, hat, hp⟩, fun _ => by simp [ApiOK]⟩

theorem OFO.childAddSpec_track (m : OFO) (kids : List (Nat × Nat)) (h : OFO.TInv m kids) (hwf : OFO.WF m)
    (hl : OFO.Live m kids) (name : Nat) (sig : Bool) : OFO.TAnswer kids true (m.childAddSpec name sig) := by
  fun_cases OFO.childAddSpec m name sig
  case case4 hcond hvalid hdup cs =>
    have hsd : m.shutdown = false := by simpa using fun hx => hcond (.inr hx)
    have hnew := (findName_none_iff name m.spec).mp (by simpa using hdup)
    have hrs := runs_append_idle (l := m.spec) (c0 := cs) rfl
    refine ⟨OFO.tinv_of_runs ?_ ?_ ?_ (fun hx => ?_) (fun hx => (nomatch hsd.symm.trans hx)), ?_⟩
    · simp only [List.map_append, List.map_cons, List.map_nil]
      refine nodup_snoc.mpr ⟨fun ha => ?_, h.names⟩
      obtain ⟨c, hc, e⟩ := List.mem_map.mp ha
      exact hnew c hc e
    · intro c hc
      rcases List.mem_append.mp hc with hc | hc
      · exact h.nz c hc
      · rw [List.mem_singleton.mp hc]; simpa [validName] using hvalid
    · simp only [hrs]; exact h.uniq
    · simp only [hrs]; exact h.tracks hx
    · have hat : (m.spec ++ [cs])[m.i]? = some cs := by rw [hwf.next]; simp
      exact ⟨⟨hsd, ⟨_, hat, rfl⟩, _, hat, rfl⟩, fun _ => by simp [ApiOK]⟩
  all_goals exact .refused _ h hl

theorem OFO.childDisable_track (m : OFO) (kids : List (Nat × Nat)) (h : OFO.TInv m kids) (hl : OFO.Live m kids)
    (name : Nat) : OFO.TAnswer kids true (m.childDisable name) := by
  have hupd : OFO.TInv { m with spec := updName name (fun c => { c with disabled := true }) m.spec } kids :=
    OFO.tinv_of_pairs h (by apply updName_map; exact fun _ => rfl) rfl rfl rfl
  -- unknown name, disabled already, no child to stop, the child told to stop
  fun_cases OFO.childDisable m name
  · exact .refused _ h hl
  · exact ⟨h, hl, fun _ => by simp [ApiOK]⟩
  · exact ⟨hupd, fun hx => hl hx, fun _ => by simp [ApiOK]⟩
  · exact ⟨hupd, ⟨by simp, fun _ hx => hl hx⟩, fun _ => by simp [ApiOK]⟩

/-- EnableChild, under the D26 exclusion: no entry of the children table carries this spec name (while shutting down
the call is refused) -/
theorem OFO.childEnable_track (m : OFO) (kids : List (Nat × Nat)) (h : OFO.TInv m kids) (hwf : OFO.WF m)
    (hl : OFO.Live m kids) (name : Nat) (hsafe : m.shutdown = true ∨ ∀ p, (p, name) ∉ kids) :
    OFO.TAnswer kids true (m.childEnable name) := by
  -- refused (1, 2), enabled already (3), enabled now (4)
  fun_cases OFO.childEnable m name
  case case1 | case2 => exact .refused _ h hl
  case case3 => exact ⟨h, hl, fun _ => by simp [ApiOK]⟩
  case case4 hsd' c hf _ c' =>
    have hsd : m.shutdown = false := by simpa using hsd'
    have hsafe : ∀ p, (p, name) ∉ kids := hsafe.resolve_left hsd'
    have ⟨hcm, hcn⟩ := findName_mem name m.spec c hf
    have hat := findName_at hf hwf.idx
    -- the spec has no child: otherwise its pid would be in the table, under this very name
    have hp0 : c.pid = 0 :=
      Decidable.by_contra fun hne => hsafe _ ((h.tracks hsd _ _).mpr ⟨hne, c, hcm, hcn, rfl⟩)
    rw [updName_const (fun c => { c with disabled := false }) hf]
    have hmap : (updName name (fun c => ({ c with disabled := false } : ChildSpec)) m.spec).map (fun c => (c.name, c.pid)) =
        m.spec.map (fun c => (c.name, c.pid)) := by apply updName_map; exact fun _ => rfl
    obtain ⟨c', hat', e⟩ := getElem_of_map_eq hmap hat
    exact ⟨OFO.tinv_of_pairs h hmap rfl rfl rfl,
      ⟨hsd, ⟨c', hat', congrArg Prod.fst e⟩, c', hat', (congrArg Prod.snd e).trans hp0⟩, fun _ => by simp [ApiOK]⟩

end ErgoVerif.Sup
