import ErgoVerif.Lemmas.EdfRound
/-! `Good` taken apart: `WF`, what every Go value in canonical form satisfies, and `Excl`, which keeps a value out of
    the region where the current code does not round-trip. -/
namespace ErgoVerif.Edf

/-- what `WF` asks of the descriptor of a dynamic type; clause for clause `DescOK` (`DescWF_eq`): a Go map key type
    only has to be comparable -/
def DescWF (o : Opts) : Ty → Prop
  | .slice t => DescWF o t
  | .array n t => n < 4294967296 ∧ ¬ (t.size > 0 ∧ n * t.size ≥ uintptrLimit) ∧ DescWF o t
  | .map k v => k.comparable = true ∧ DescWF o k ∧ DescWF o v
  | .named nm t => RegOK o nm (.named nm t)
  | .struct nm fs => RegOK o nm (.struct nm fs)
  | .marsh nm sz => RegOK o nm (.marsh nm sz)
  | _ => True

mutual
/-- `Good` without the exclusion of zero-width element types: what a Go value of the type satisfies
    (registered dynamic types, distinct hashable map keys, lengths below 2^32) plus canonical form
    (quiet float32 NaNs, atoms fixed by the two mappings, sentinels present in the error cache) -/
def WF (o : Opts) : Ty → Val → Prop
  | .any, .any t v => DescWF o t ∧ (encTy o t).length < 65536 ∧ WF o t v
  | .slice t, .list vs => vs.length < lim32 ∧ WFs o t vs
  | .array _ t, .list vs => WFs o t vs
  | .map k v, .map ps => ps.length < lim32 ∧ Pairs.KeysOK .nil ps ∧ WFp o k v ps
  | .named _ (.slice t), .list vs => vs.length < lim32 ∧ WFs o t vs
  | .named _ (.array _ t), .list vs => WFs o t vs
  | .named _ (.map k v), .map ps => ps.length < lim32 ∧ Pairs.KeysOK .nil ps ∧ WFp o k v ps
  | .struct _ fs, .list vs => WFf o fs vs
  | .named _ t, v => LeafGood o t v
  | t, v => LeafGood o t v
def WFs (o : Opts) : Ty → Vals → Prop
  | _, .nil => True
  | t, .cons v vs => WF o t v ∧ WFs o t vs
def WFp (o : Opts) : Ty → Ty → Pairs → Prop
  | _, _, .nil => True
  | kt, vt, .cons k v ps => WF o kt k ∧ WF o vt v ∧ WFp o kt vt ps
def WFf (o : Opts) : Tys → Vals → Prop
  | .cons t ts, .cons v vs => WF o t v ∧ WFf o ts vs
  | _, _ => True
end

/-- after the D27 fix every comparable key type unfolds: the two are defined by the same clauses -/
theorem DescWF_eq (o : Opts) (t : Ty) : DescWF o t = DescOK o t := by
  fun_induction DescWF o t <;> simp only [DescOK, *]

mutual
/-- outside the defect region of the current code: no non-empty collection of zero-width elements -/
def Excl : Ty → Val → Prop
  | .any, .any t v => Excl t v
  | .slice t, .list vs => (t.nz = true ∨ vs.length = 0) ∧ Excls t vs
  | .array n t, .list vs => (t.nz = true ∨ n = 0) ∧ Excls t vs
  | .map k v, .map ps => (k.nz = true ∨ v.nz = true ∨ ps.length = 0) ∧ Exclp k v ps
  | .named _ (.slice t), .list vs => (t.nz = true ∨ vs.length = 0) ∧ Excls t vs
  | .named _ (.array n t), .list vs => (t.nz = true ∨ n = 0) ∧ Excls t vs
  | .named _ (.map k v), .map ps => (k.nz = true ∨ v.nz = true ∨ ps.length = 0) ∧ Exclp k v ps
  | .struct _ fs, .list vs => Exclf fs vs
  | _, _ => True
def Excls : Ty → Vals → Prop
  | _, .nil => True
  | t, .cons v vs => Excl t v ∧ Excls t vs
def Exclp : Ty → Ty → Pairs → Prop
  | _, _, .nil => True
  | kt, vt, .cons k v ps => Excl kt k ∧ Excl vt v ∧ Exclp kt vt ps
def Exclf : Tys → Vals → Prop
  | .cons t ts, .cons v vs => Excl t v ∧ Exclf ts vs
  | _, _ => True
end

/-- In the two catch-all clauses `Good` and `WF` both say what `LeafGood` says.  The cases come in the order of
    `Good.mutual_induct`: the eight structural clauses of `Good`, its two catch-alls, then `Goodf` (cons, mismatch),
    `Goods` (nil, cons), `Goodp` (nil, cons). -/
theorem Good_of_WF_all (o : Opts) :
    (∀ t v, WF o t v → Excl t v → Good o t v) ∧ (∀ fs vs, WFf o fs vs → Exclf fs vs → Goodf o fs vs) ∧
    (∀ kt vt ps, WFp o kt vt ps → Exclp kt vt ps → Goodp o kt vt ps) ∧ (∀ t vs, WFs o t vs → Excls t vs → Goods o t vs) := by
  refine Good.mutual_induct (motive_1 := fun t v => WF o t v → Excl t v → Good o t v)
    (motive_2 := fun fs vs => WFf o fs vs → Exclf fs vs → Goodf o fs vs)
    (motive_3 := fun kt vt ps => WFp o kt vt ps → Exclp kt vt ps → Goodp o kt vt ps)
    (motive_4 := fun t vs => WFs o t vs → Excls t vs → Goods o t vs)
    ?_ ?_ ?_ ?_ ?_ ?_ ?_ ?_ ?_ ?_ ?_ ?_ ?_ ?_ ?_ ?_
  · exact fun t v ih hw hx => ⟨DescWF_eq o t ▸ hw.1, hw.2.1, ih hw.2.2 hx⟩
  · exact fun t vs ih hw hx => ⟨hw.1, hx.1, ih hw.2 hx.2⟩
  · exact fun n t vs ih hw hx => ⟨hx.1, ih hw hx.2⟩
  · exact fun k v ps ih hw hx => ⟨hw.1, hx.1, hw.2.1, ih hw.2.2 hx.2⟩
  · exact fun nm t vs ih hw hx => ⟨hw.1, hx.1, ih hw.2 hx.2⟩
  · exact fun nm n t vs ih hw hx => ⟨hx.1, ih hw hx.2⟩
  · exact fun nm k v ps ih hw hx => ⟨hw.1, hx.1, hw.2.1, ih hw.2.2 hx.2⟩
  · exact fun nm fs vs ih hw hx => ih hw hx
  · intro nm t v _ _ _ hw _
    simp only [Good, WF] at hw ⊢
    exact hw
  · intro t v _ _ _ _ _ _ _ _ _ hw _
    simp only [Good, WF] at hw ⊢
    exact hw
  · exact fun t ts v vs ih1 ih2 hw hx => ⟨ih1 hw.1 hx.1, ih2 hw.2 hx.2⟩
  · intro vs fs _ _ _
    simp only [Goodf]
  · exact fun _ _ _ => trivial
  · exact fun t v vs ih1 ih2 hw hx => ⟨ih1 hw.1 hx.1, ih2 hw.2 hx.2⟩
  · exact fun _ _ _ _ => trivial
  · exact fun kt vt k v ps ih1 ih2 ih3 hw hx => ⟨ih1 hw.1 hx.1, ih2 hw.2.1 hx.2.1, ih3 hw.2.2 hx.2.2⟩

theorem Good_of_WF (o : Opts) : (v : Val) → (t : Ty) → WF o t v → Excl t v → Good o t v :=
  fun v t => (Good_of_WF_all o).1 t v
theorem Goods_of_WF (o : Opts) : (vs : Vals) → (t : Ty) → WFs o t vs → Excls t vs → Goods o t vs :=
  fun vs t => (Good_of_WF_all o).2.2.2 t vs
theorem Goodp_of_WF (o : Opts) : (ps : Pairs) → (kt vt : Ty) → WFp o kt vt ps → Exclp kt vt ps → Goodp o kt vt ps :=
  fun ps kt vt => (Good_of_WF_all o).2.2.1 kt vt ps
theorem Goodf_of_WF (o : Opts) : (vs : Vals) → (fs : Tys) → WFf o fs vs → Exclf fs vs → Goodf o fs vs :=
  fun vs fs => (Good_of_WF_all o).2.1 fs vs
end ErgoVerif.Edf
