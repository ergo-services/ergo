import ErgoVerif.Model.SupLoop
/-
Facts about the glue (`handleAction`, `afterCall`, `step`) that hold for every state machine: a step is the death of a
child or `afterCall` around one method call (`Call`); the ghost state moves in three ways — a spawn, a death, the handing
over of an exit — and what these keep, every step keeps (`GhostInv`, with `Glue` and `Noticed` as its instances); and if the
answer to the method is good (`Res.Good`: no panic, a refusal is the empty action) and `childStarted` answers the start
actions of a class by actions of the class along a falling measure, the loop ends by carrying out (`conclude`) its last
action (`afterCall_ends`), which leaves the configuration in order if that action is a `GoodAct` (`finish_conclude`).
-/
namespace ErgoVerif.Sup

def keys {β : Type} (l : List (Nat × β)) : List Nat := l.map (·.1)

@[simp] theorem mem_keys {β : Type} (l : List (Nat × β)) (p : Nat) : p ∈ keys l ↔ ∃ b, (p, b) ∈ l := by
  simp [keys]

theorem mem_keys_filter_ne {β : Type} (l : List (Nat × β)) (p q : Nat) :
    p ∈ keys (l.filter (fun x => x.1 ≠ q)) ↔ p ∈ keys l ∧ p ≠ q := by
  simp only [mem_keys, List.mem_filter, decide_eq_true_eq, exists_and_right]

theorem mem_keys_filter_ne' {β : Type} (l : List (Nat × β)) (p q : Nat) :
    p ∈ keys (l.filter (fun x => !decide (x.1 = q))) ↔ p ∈ keys l ∧ p ≠ q := by
  simp only [mem_keys, List.mem_filter, Bool.not_eq_true', decide_eq_false_iff_not, exists_and_right, ne_eq]

theorem mem_keys_append {β : Type} (l l' : List (Nat × β)) (p : Nat) :
    p ∈ keys (l ++ l') ↔ p ∈ keys l ∨ p ∈ keys l' := by
  simp only [keys, List.map_append, List.mem_append]

theorem mem_keys_cons {β : Type} (l : List (Nat × β)) (p q : Nat) (b : β) :
    p ∈ keys ((q, b) :: l) ↔ p = q ∨ p ∈ keys l := List.mem_cons

theorem filter_fresh (kids : List (Nat × Nat)) (np : Nat) (h : ∀ p, p ∈ keys kids → p < np) :
    kids.filter (fun x => x.1 ≠ np) = kids := by
  apply List.filter_eq_self.mpr
  intro a ha
  have := h a.1 ((mem_keys _ _).mpr ⟨a.2, ha⟩)
  simp; omega

theorem wait_step {w : List Nat} {kids : List (Nat × Nat)} (h : ∀ p, p ∈ w ↔ p ∈ keys kids) (pid p : Nat) :
    p ∈ sdel pid w ↔ p ∈ keys (kids.filter (fun x => x.1 ≠ pid)) := by
  rw [mem_keys_filter_ne, ← h p]; simp [sdel]

theorem lookupReason_mem (pid : Nat) (l : List (Nat × Reason)) (r : Reason) : lookupReason pid l = some r → (pid, r) ∈ l := by
  fun_induction lookupReason pid l <;> intro h
  · cases h
  · cases h; exact List.mem_cons_self
  case case3 ih => exact List.mem_cons_of_mem _ (ih h)

theorem lookupKid_mem (pid : Nat) (kids : List (Nat × Nat)) : pid ∈ keys kids → (pid, lookupKid pid kids) ∈ kids := by
  fun_induction lookupKid pid kids <;> intro h
  · cases h
  · exact List.mem_cons_self
  case case3 hp ih => exact List.mem_cons_of_mem _ (ih (((mem_keys_cons ..).mp h).resolve_left (Ne.symm hp)))

variable {σ : Type}

/-- the configuration after the spawn for the start action `a` has succeeded and `childStarted` has been told -/
def spawn (M : Machine σ) (c : Loop σ) (a : Action) : Loop σ :=
  { c with nextPid := c.nextPid + 1, alive := (c.nextPid, a.spec.name) :: c.alive,
           kids := (c.nextPid, a.spec.name) :: c.kids, m := (M.childStarted c.m a.spec c.nextPid).1 }

/-- carrying out an action that no other action follows (a `start` here is one whose spawn is refused) -/
def conclude (c : Loop σ) (a : Action) : Loop σ × HRes :=
  match a.act with
  | .nothing => (c, .ret none)
  | .start => (c, .spawnErr)
  | .terminateChildren =>
    if a.terminate.isEmpty then (c, .ret a.reason)
    else ({ c with exitsSent := a.terminate.map (fun p => (p, a.reason)) ++ c.exitsSent }, .ret none)
  | .terminate => (c, .ret a.reason)

def Loop.noticing (c : Loop σ) (pid : Nat) : Loop σ :=
  { c with inflight := c.inflight.filter (fun p => p.1 ≠ pid), kids := c.kids.filter (fun p => p.1 ≠ pid),
           noticed := pid :: c.noticed }

/-- `Supervisor.StartChild` overrides the args of the spec it is about to start -/
def withArgs (args : Nat) (r : σ × Res) : σ × Res :=
  match r.2 with
  | .ok a => (r.1, Res.ok (if args > 0 then { a with spec := { a.spec with args := args } } else a))
  | _ => r

theorem withArgs_ok (args : Nat) (m : σ) (a : Action) :
    withArgs args (m, .ok a) =
      (m, .ok { a with spec := { a.spec with args := if args > 0 then args else a.spec.args } }) := by
  simp only [withArgs]
  split <;> rfl

/-- the method call a label stands for: who asks (`api`: a management call), the outcomes of the spawns, the
configuration the answer is carried out in, and the machine's answer -/
inductive Call (M : Machine σ) (c : Loop σ) : Label → Bool → List Bool → Loop σ → σ × Res → Prop
  | deliver {pid : Nat} {now : Int} {bits : List Bool} {r : Reason} (h : lookupReason pid c.inflight = some r) :
      Call M c (.deliver pid now bits) false bits (c.noticing pid)
        (M.childTerminated c.m (lookupKid pid c.kids) pid r now)
  | foreign {r : Reason} {now : Int} {bits : List Bool} :
      Call M c (.foreign r now bits) false bits { c with nextPid := c.nextPid + 1 }
        (M.childTerminated c.m 0 c.nextPid r now)
  | startChild {name args : Nat} {bits : List Bool} :
      Call M c (.startChild name args bits) true bits c (withArgs args (M.childSpec c.m name))
  | addChild {name : Nat} {sig : Bool} {bits : List Bool} :
      Call M c (.addChild name sig bits) true bits c (M.childAddSpec c.m name sig)
  | enable {name : Nat} {bits : List Bool} : Call M c (.enable name bits) true bits c (M.childEnable c.m name)
  | disable {name : Nat} : Call M c (.disable name) true [] c (M.childDisable c.m name)

section
variable {M : Machine σ} {c c0 : Loop σ} {l : Label} {api : Bool} {bits : List Bool} {r : σ × Res}

theorem Call.status_eq (hc : Call M c l api bits c0 r) : c0.status = c.status := by
  cases hc <;> rfl

theorem Call.nextPid_le (hc : Call M c l api bits c0 r) : c.nextPid ≤ c0.nextPid := by
  cases hc <;> first | exact Nat.le_refl _ | exact Nat.le_succ _

end

theorem step_cases {M : Machine σ} {fuel : Nat} {c c' : Loop σ} {l : Label} :
    step M fuel c l = some c' →
    c.status = .running ∧
    ((∃ pid r, l = .die pid r ∧ pid ∈ keys c.alive ∧
        c' = { c with alive := c.alive.filter (fun p => p.1 ≠ pid), inflight := c.inflight ++ [(pid, r)] }) ∨
     ∃ api bits c0 r, Call M c l api bits c0 r ∧ c' = afterCall M fuel api bits c0 r) := by
  -- what is left are the branches that answer `some`, one per label
  fun_cases step M fuel c l <;> intro h <;> cases h <;> refine ⟨Decidable.not_not.mp ‹_›, ?_⟩
  next hal => exact .inl ⟨_, _, rfl, by simpa [keys] using hal, rfl⟩
  next hr _ _ => exact .inr ⟨_, _, _, _, .deliver hr, rfl⟩
  · exact .inr ⟨_, _, _, _, .foreign, rfl⟩
  · exact .inr ⟨_, _, _, _, .startChild, rfl⟩
  · exact .inr ⟨_, _, _, _, .addChild, rfl⟩
  · exact .inr ⟨_, _, _, _, .enable, rfl⟩
  · exact .inr ⟨_, _, _, _, .disable, rfl⟩

theorem handleAction_pres (M : Machine σ) (P : Loop σ → Prop)
    (hspawn : ∀ c a, P c → P (spawn M c a))
    (hsent : ∀ c es, P c → P { c with exitsSent := es }) (fuel : Nat) (bits : List Bool) (c : Loop σ) (a : Action) :
    P c → P (handleAction M fuel bits c a).1 := by
  -- `childStarted` after a spawn answers ok (4, the recursive call), err (5), panic (6); exit signals sent (8); else `c`
  fun_induction handleAction M fuel bits c a
  case case4 ih => exact fun h => ih (hspawn _ _ h)
  case case5 | case6 => exact hspawn _ _
  case case8 => exact hsent _ _
  all_goals exact id

theorem finish_eq (api : Bool) (r : Loop σ × HRes) :
    finish api r = r.1 ∨ ∃ s, finish api r = { r.1 with status := s } := by
  -- `r.1` is returned for `.ret none` (1) and to a management call told of an end (2) or a spawn error (4)
  fun_cases finish api r
  case case1 | case2 | case4 => exact .inl rfl
  all_goals exact .inr ⟨_, rfl⟩

theorem afterCall_pres (M : Machine σ) (P : Loop σ → Prop)
    (hspawn : ∀ c a, P c → P (spawn M c a))
    (hsent : ∀ c es, P c → P { c with exitsSent := es }) (hstat : ∀ c s, P c → P { c with status := s })
    (fuel : Nat) (api : Bool) (bits : List Bool) (c : Loop σ) (r : σ × Res) (h : P { c with m := r.1 }) :
    P (afterCall M fuel api bits c r) := by
  unfold afterCall
  cases r.2 with
  | ok a =>
    have := handleAction_pres M P hspawn hsent fuel bits _ a h
    rcases finish_eq api (handleAction M fuel bits { c with m := r.1 } a) with e | ⟨s, e⟩
    · simp only [e]; exact this
    · simp only [e]; exact hstat _ s this
  | err e => exact h
  | panic => exact hstat _ _ h

/-- what `childStarted` and the method called leave alone, the step leaves alone (used for `shutdown` and `shutdownReason`
once `shutdown` is set) -/
theorem step_m {β : Type} (M : Machine σ) (f : σ → β) (hf : ∀ m cs np, f (M.childStarted m cs np).1 = f m)
    {fuel : Nat} {c c' : Loop σ} {l : Label} (hs : step M fuel c l = some c')
    (hcall : ∀ {api bits c0 r}, Call M c l api bits c0 r → f r.1 = f c.m) : f c'.m = f c.m := by
  obtain ⟨_, ⟨pid, r, rfl, _, rfl⟩ | ⟨api, bits, c0, r, hc, rfl⟩⟩ := step_cases hs
  · rfl
  · exact afterCall_pres M (fun c' => f c'.m = f c.m) (fun _ _ h => (hf _ _ _).trans h) (fun _ _ h => h) (fun _ _ h => h)
      fuel api bits c0 r (hcall hc)

/-- a child is in `Supervisor.children` from its spawn until its exit is handled: while it runs and while its exit is
on the way; pids are handed out in increasing order -/
structure Glue {σ : Type} (c : Loop σ) : Prop where
  kids_iff : ∀ p, p ∈ keys c.kids ↔ (p ∈ keys c.alive ∨ p ∈ keys c.inflight)
  disj : ∀ p, p ∈ keys c.alive → p ∉ keys c.inflight
  fresh : ∀ p, p ∈ keys c.kids → p < c.nextPid

/-- `P` speaks of the ghost state only (the children table, who runs, whose exit is on the way, who has been noticed;
`nextPid` may grow) and the three moves of that state keep it: a spawn, a death, the handing over of an exit -/
structure GhostInv (M : Machine σ) (P : Loop σ → Prop) : Prop where
  frame : ∀ {c c' : Loop σ}, P c → c'.kids = c.kids → c'.alive = c.alive → c'.inflight = c.inflight →
    c'.noticed = c.noticed → c.nextPid ≤ c'.nextPid → P c'
  spawn : ∀ c a, P c → P (spawn M c a)
  die : ∀ (c : Loop σ) pid r, pid ∈ keys c.alive →
    P c → P { c with alive := c.alive.filter (fun p => p.1 ≠ pid), inflight := c.inflight ++ [(pid, r)] }
  notice : ∀ (c : Loop σ) pid, pid ∈ keys c.inflight → P c → P (c.noticing pid)

section
variable {M : Machine σ} {P : Loop σ → Prop} (hP : GhostInv M P)
include hP

theorem GhostInv.afterCall (fuel : Nat) (api : Bool) (bits : List Bool) (c : Loop σ) (r : σ × Res) (h : P c) :
    P (afterCall M fuel api bits c r) :=
  afterCall_pres M P hP.spawn (fun _ _ h => hP.frame h rfl rfl rfl rfl (Nat.le_refl _))
    (fun _ _ h => hP.frame h rfl rfl rfl rfl (Nat.le_refl _)) fuel api bits c r (hP.frame h rfl rfl rfl rfl (Nat.le_refl _))

theorem GhostInv.call {c c0 : Loop σ} {l : Label} {api : Bool} {bits : List Bool} {r : σ × Res}
    (hc : Call M c l api bits c0 r) (h : P c) : P c0 := by
  cases hc with
  | deliver hr => exact hP.notice _ _ ((mem_keys _ _).mpr ⟨_, lookupReason_mem _ _ _ hr⟩) h
  | foreign => exact hP.frame h rfl rfl rfl rfl (Nat.le_succ _)
  | _ => exact h

theorem GhostInv.step {fuel : Nat} {c c' : Loop σ} {l : Label} (hs : step M fuel c l = some c') (h : P c) : P c' := by
  obtain ⟨_, ⟨pid, r, rfl, hpa, rfl⟩ | ⟨api, bits, c0, r, hc, rfl⟩⟩ := step_cases hs
  · exact hP.die _ _ _ hpa h
  · exact hP.afterCall fuel api bits c0 r (hP.call hc h)

end

theorem Glue.ghost (M : Machine σ) : GhostInv M Glue where
  frame h h1 h2 h3 _ h4 :=
    ⟨fun p => by rw [h1, h2, h3]; exact h.kids_iff p, fun p => by rw [h2, h3]; exact h.disj p,
      fun p hp => Nat.lt_of_lt_of_le (h.fresh p (h1 ▸ hp)) h4⟩
  spawn c a h := by
    constructor
    · intro p
      simp only [Sup.spawn, mem_keys_cons, h.kids_iff p, or_assoc]
    · intro p hp hq
      rcases (mem_keys_cons _ _ _ _).mp hp with rfl | hp
      · exact Nat.lt_irrefl _ (h.fresh _ ((h.kids_iff _).mpr (Or.inr hq)))
      · exact h.disj p hp hq
    · intro p hp
      rcases (mem_keys_cons _ _ _ _).mp hp with rfl | hp
      · exact Nat.lt_succ_self _
      · exact Nat.lt_succ_of_lt (h.fresh p hp)
  die c pid r hpa h := by
    -- the child moves from `alive` to `inflight`
    constructor
    · intro p
      simp only [mem_keys_filter_ne, mem_keys_append, mem_keys_cons, h.kids_iff p]
      by_cases hp : p = pid
      · simp [hp, hpa]
      · simp [hp, keys]
    · intro p hp hq
      simp only [mem_keys_filter_ne, mem_keys_append, mem_keys_cons] at hp hq
      rcases hq with hq | hq | hq
      · exact h.disj p hp.1 hq
      · exact hp.2 hq
      · simp [keys] at hq
    · exact h.fresh
  notice c pid hpi h := by
    -- the dead child leaves `inflight` and `kids` together; it is not alive (`disj`)
    constructor
    · intro p
      simp only [Loop.noticing, mem_keys_filter_ne, h.kids_iff p]
      by_cases hp : p = pid
      · rw [hp]
        exact ⟨fun hx => absurd rfl hx.2, fun hx => hx.elim (fun ha => absurd hpi (h.disj _ ha)) (fun hx => absurd rfl hx.2)⟩
      · simp only [ne_eq, hp, not_false_eq_true, and_true]
    · intro p hp hq
      exact h.disj p hp ((mem_keys_filter_ne _ _ _).mp hq).1
    · intro p hp
      exact h.fresh p ((mem_keys_filter_ne _ _ _).mp hp).1

theorem eq_nil_of_keys {β : Type} {l : List (Nat × β)} (h : ∀ p, p ∉ keys l) : l = [] := by
  cases l with
  | nil => rfl
  | cons a t => exact absurd List.mem_cons_self (h a.1)

theorem Glue.none_left {c : Loop σ} (g : Glue c) (h : ∀ p, p ∉ keys c.kids) :
    c.alive = [] ∧ c.inflight = [] :=
  ⟨eq_nil_of_keys fun p hp => h p ((g.kids_iff p).mpr (.inl hp)),
   eq_nil_of_keys fun p hp => h p ((g.kids_iff p).mpr (.inr hp))⟩

/-- no hang, for any machine whose wait set `w` is the children table: a child that is waited for is running or its exit
is on the way -/
theorem Glue.waits_for_child {c : Loop σ} {w : List Nat} (g : Glue c) (hw : ∀ p, p ∈ w ↔ p ∈ keys c.kids)
    (hl : ∃ p, p ∈ keys c.kids) : ∃ p, p ∈ w ∧ (p ∈ keys c.alive ∨ p ∈ keys c.inflight) :=
  hl.imp fun p hp => ⟨(hw p).mpr hp, (g.kids_iff p).mp hp⟩

/-- a pid handed to `childTerminated` is no longer in `Supervisor.children` (hence neither running nor with
an unhandled exit), it is handed over only once, and pids are never reused -/
structure Noticed {σ : Type} (c : Loop σ) : Prop where
  nodup : c.noticed.Nodup
  gone : ∀ p, p ∈ c.noticed → p ∉ keys c.kids ∧ p < c.nextPid

/-- `Noticed` is kept along with `Glue`: a pid that is handed over is still in `kids` (its exit is in flight), so it
has not been noticed before -/
theorem Noticed.ghost (M : Machine σ) : GhostInv M (fun c => Glue c ∧ Noticed c) where
  frame h h1 h2 h3 h4 h5 :=
    ⟨(Glue.ghost M).frame h.1 h1 h2 h3 h4 h5, h4 ▸ h.2.nodup,
      fun p hp => h1 ▸ ⟨(h.2.gone p (h4 ▸ hp)).1, Nat.lt_of_lt_of_le (h.2.gone p (h4 ▸ hp)).2 h5⟩⟩
  spawn c a h := by
    refine ⟨(Glue.ghost M).spawn c a h.1, h.2.nodup, fun p hp => ?_⟩
    have ⟨h1, h2⟩ := h.2.gone p hp
    refine ⟨fun hk => ?_, Nat.lt_succ_of_lt h2⟩
    rcases (mem_keys_cons _ _ _ _).mp hk with rfl | hk
    · exact Nat.lt_irrefl _ h2
    · exact h1 hk
  die c pid r hpa h := ⟨(Glue.ghost M).die c pid r hpa h.1, h.2.nodup, h.2.gone⟩
  notice c pid hpi h := by
    obtain ⟨hg, h⟩ := h
    have hpk : pid ∈ keys c.kids := (hg.kids_iff pid).mpr (Or.inr hpi)
    refine ⟨(Glue.ghost M).notice c pid hpi hg, List.nodup_cons.mpr ⟨fun hp => (h.gone pid hp).1 hpk, h.nodup⟩, fun p hp => ?_⟩
    rcases List.mem_cons.mp hp with rfl | hp
    · exact ⟨fun hx => ((mem_keys_filter_ne _ _ _).mp hx).2 rfl, hg.fresh _ hpk⟩
    · exact ⟨fun hx => (h.gone p hp).1 ((mem_keys_filter_ne _ _ _).mp hx).1, (h.gone p hp).2⟩

/-- T7 for every state machine, every initial answer and every history -/
theorem reach_exits_noticed (M : Machine σ) (stepf : Loop σ → Label → Option (Loop σ))
    (hstep : ∀ c l, ∃ fuel, stepf c l = step M fuel c l) (fuel : Nat) (r : σ × Res) (c : Loop σ)
    (h : ∃ ls, run stepf (boot M fuel r) ls = some c) :
    (∀ p, p ∈ keys c.kids ↔ (p ∈ keys c.alive ∨ p ∈ keys c.inflight)) ∧ c.noticed.Nodup ∧
    (∀ p, p ∈ c.noticed → p ∉ keys c.alive ∧ p ∉ keys c.inflight) := by
  obtain ⟨ls, hr⟩ := h
  have ⟨hg, hn⟩ := run_inv (Inv := fun x => Glue x ∧ Noticed x)
    (fun s a s' hi hs => by
      obtain ⟨fuel, hf⟩ := hstep s a
      exact (Noticed.ghost M).step (hf ▸ hs) hi)
    ((Noticed.ghost M).afterCall fuel false [] _ r ⟨by constructor <;> simp [keys], by constructor <;> simp⟩) hr
  refine ⟨hg.kids_iff, hn.nodup, fun p hp => ?_⟩
  have hk := (hn.gone p hp).1
  exact ⟨fun ha => hk ((hg.kids_iff p).mpr (Or.inl ha)), fun hi => hk ((hg.kids_iff p).mpr (Or.inr hi))⟩

/-- what is asked of the answer to a method: no panic, and `ok` of the action answered — where a refusal counts as the
empty action, which is how the loop treats it -/
def Res.Good (ok : Action → Prop) : Res → Prop
  | .ok a => ok a
  | .err _ => ok {}
  | .panic => False

section
variable (M : Machine σ) (J : Loop σ → Action → Prop) (rem : σ → Action → Nat)
  (hstart : ∀ c a, J c a → a.act = .start →
    ∃ a', (M.childStarted c.m a.spec c.nextPid).2 = .ok a' ∧ J (spawn M c a) a' ∧
      rem (spawn M c a).m a' < rem c.m a)
include hstart

/-- the loop of `handleAction` ends regularly when the actions it meets stay within a class `J` whose start actions
`childStarted` answers without panic and along which a measure of the work left falls: the result is that of
carrying out the last action of the chain, in a configuration where `J` still holds -/
theorem handleAction_ends (fuel : Nat) : ∀ (bits : List Bool) (c : Loop σ) (a : Action), J c a → rem c.m a < fuel →
      ∃ c' a', J c' a' ∧ c'.status = c.status ∧ handleAction M fuel bits c a = conclude c' a' := by
  induction fuel with
  | zero => intro bits c a _ h; exact absurd h (Nat.not_lt_zero _)
  | succ n ih =>
    intro bits c a hj hf
    cases ha : a.act with
    | start =>
      rw [handleAction]
      simp only [ha]
      split
      · exact ⟨c, a, hj, rfl, by simp [conclude, ha]⟩
      · obtain ⟨a', hr, hj', hlt⟩ := hstart c a hj ha
        simp only [hr]
        exact ih bits.tail (spawn M c a) a' hj' (by omega)
    | _ => exact ⟨c, a, hj, rfl, by rw [handleAction]; simp only [conclude, ha]⟩

/-- the same for `afterCall`, given a good answer to the method: an action goes through the loop, a refusal ends at once,
as the empty action would -/
theorem afterCall_ends (fuel : Nat) (api : Bool) (bits : List Bool) (c : Loop σ) {r : σ × Res} {ok : Action → Prop}
    (hr : r.2.Good ok) (hJ : ∀ a, ok a → J { c with m := r.1 } a) (hrem : ∀ a, rem r.1 a < fuel) :
    ∃ c' a', J c' a' ∧ c'.status = c.status ∧ afterCall M fuel api bits c r = finish api (conclude c' a') := by
  unfold afterCall
  cases hr' : r.2 <;> rw [hr'] at hr
  case ok a =>
    obtain ⟨c', a', hj, hs, he⟩ := handleAction_ends M J rem hstart fuel bits _ a (hJ a hr) (hrem a)
    exact ⟨c', a', hj, hs, he ▸ rfl⟩
  case err => exact ⟨_, {}, hJ {} hr, rfl, rfl⟩
  case panic => exact hr.elim

end

/-- how many more children a chain of starts over a slice of `len` specs can start: each round starts a spec at a larger
index (the measure `handleAction_ends` is used with) -/
def startsLeft (len : Nat) (a : Action) : Nat := if a.act = .start then len - a.spec.i else 0

theorem startsLeft_le (len : Nat) (a : Action) : startsLeft len a ≤ len := by
  unfold startsLeft
  split
  · exact Nat.sub_le ..
  · exact Nat.zero_le _

theorem startsLeft_lt {len : Nat} {a a' : Action} (ha : a.act = .start) (hi : a.spec.i < len)
    (h : a'.act = .start → a.spec.i < a'.spec.i) : startsLeft len a' < startsLeft len a := by
  rw [startsLeft, startsLeft, if_pos ha]
  split
  · exact Nat.sub_lt_sub_left hi (h ‹_›)
  · exact Nat.sub_pos_of_lt hi

/-- management calls never answer with a terminating action -/
def ApiOK (a : Action) : Prop := a.act ≠ .terminate ∧ (a.act = .terminateChildren → a.terminate.isEmpty = false)

/-- what the last action of a chain must satisfy so that carrying it out leaves the configuration in order: `live` if the
supervisor goes on running, `start` for a spawn (the last action when the spawn is refused), `done e` if the supervisor
ends with `e` -/
def GoodAct (live start : Prop) (done : Reason → Prop) (a : Action) : Prop :=
  match a.act with
  | .nothing => live
  | .start => start
  | .terminateChildren =>
      (a.terminate.isEmpty → ∀ e, a.reason = some e → done e) ∧ ((a.terminate.isEmpty = false ∨ a.reason = none) → live)
  | .terminate => (a.reason = none → live) ∧ ∀ e, a.reason = some e → done e

section
variable {live start : Prop} {done : Reason → Prop} {kids : List (Nat × Nat)}

theorem GoodAct.stop {t : List Nat} {e : Reason} (ht : ∀ p, p ∈ t ↔ p ∈ keys kids)
    (hl : (∃ p, p ∈ keys kids) → live) (hd : (∀ p, p ∉ keys kids) → done e) :
    GoodAct live start done { act := .terminateChildren, terminate := t, reason := some e } := by
  refine ⟨fun hemp e' he' => ?_, fun hne => hl ?_⟩
  · rw [← Option.some.inj he']
    exact hd fun p hp => by rw [← ht, show t = [] from List.isEmpty_iff.mp hemp] at hp; exact absurd hp List.not_mem_nil
  · rcases hne with hne | hne
    · obtain ⟨p, hp⟩ := List.exists_mem_of_ne_nil t (fun he => by rw [he] at hne; simp at hne)
      exact ⟨p, (ht p).mp hp⟩
    · simp at hne

theorem GoodAct.waiting {w : List Nat} {sr : Option Reason} (hw : ∀ p, p ∈ w ↔ p ∈ keys kids)
    (hsr : sr ≠ none) (hl : (∃ p, p ∈ keys kids) → live) (hd : ∀ e, sr = some e → (∀ p, p ∉ keys kids) → done e) :
    GoodAct live start done
      (if w.length > 0 then { act := .terminateChildren } else { act := .terminate, reason := sr }) := by
  split
  · rename_i hlen
    obtain ⟨p, hp⟩ := List.exists_mem_of_ne_nil w (fun he => by rw [he] at hlen; simp at hlen)
    exact ⟨fun _ e he => by simp at he, fun _ => hl ⟨p, (hw p).mp hp⟩⟩
  · rename_i hlen
    refine ⟨fun h => absurd h hsr, fun e he => hd e he fun p hp => ?_⟩
    rw [← hw, List.length_eq_zero_iff.mp (Nat.eq_zero_of_not_pos hlen)] at hp
    exact absurd hp List.not_mem_nil

end

/-- `.spawnFailed` is allowed and asks nothing: ProcessRun returned the error of the spawn -/
def Settled (live : Prop) (done : Reason → Prop) (st : Status) : Prop :=
  (st = .running → live) ∧ (∀ e, st = .terminated e → done e) ∧ st ≠ .panicked ∧ st ≠ .stuck

theorem finish_conclude {live start : Prop} {done : Reason → Prop} (api : Bool) (c : Loop σ) (a : Action)
    (hst : c.status = .running) (hcl : GoodAct live start done a) (hs : start → live)
    (hapi : api = true → ApiOK a ∨ live) :
    ∃ es st, finish api (conclude c a) = { c with exitsSent := es, status := st } ∧ Settled live done st := by
  have keep : ∀ es, live → ∃ es' st, ({ c with exitsSent := es } : Loop σ) = { c with exitsSent := es', status := st } ∧
      Settled live done st :=
    fun es hl => ⟨es, .running, by rw [← hst], fun _ => hl, fun e he => by simp at he, by simp, by simp⟩
  -- `return action.reason`; a reason is ignored for a management call and is the end of the supervisor otherwise
  have ret : (a.reason = none → live) → (∀ e, a.reason = some e → done e) →
      (a.act = .terminate ∨ a.act = .terminateChildren ∧ a.terminate.isEmpty = true) →
      ∃ es st, finish api (c, .ret a.reason) = { c with exitsSent := es, status := st } ∧ Settled live done st := by
    intro h0 hd hk
    cases hr : a.reason with
    | none => exact keep c.exitsSent (h0 hr)
    | some e =>
      cases api with
      | false =>
        exact ⟨c.exitsSent, .terminated e, rfl, by simp, fun e' he' => by simp at he'; exact he' ▸ hd e hr, by simp, by simp⟩
      | true =>
        rcases hapi rfl with h | h
        · rcases hk with hk | hk
          · exact absurd hk h.1
          · have := h.2 hk.1; rw [hk.2] at this; simp at this
        · exact keep c.exitsSent h
  unfold GoodAct at hcl
  unfold conclude
  cases ha : a.act with
  | nothing => rw [ha] at hcl; exact keep c.exitsSent hcl
  | start =>
    rw [ha] at hcl
    cases api with
    | true => exact keep c.exitsSent (hs hcl)
    | false => exact ⟨c.exitsSent, .spawnFailed, rfl, by simp, by simp, by simp, by simp⟩
  | terminate => rw [ha] at hcl; exact ret hcl.1 hcl.2 (Or.inl ha)
  | terminateChildren =>
    rw [ha] at hcl
    simp only
    split
    · rename_i hemp
      exact ret (fun hr => hcl.2 (Or.inr hr)) (hcl.1 hemp) (Or.inr ⟨ha, hemp⟩)
    · rename_i hemp
      exact keep _ (hcl.2 (Or.inl (by simpa using hemp)))

/-- whatever the last action: all that is asked of the end is "no panic, not stuck" -/
theorem finish_sane (api : Bool) (c : Loop σ) (a : Action) (hst : c.status = .running) :
    ∃ es st, finish api (conclude c a) = { c with exitsSent := es, status := st } ∧ st ≠ .panicked ∧ st ≠ .stuck := by
  obtain ⟨es, st, hfin, _, _, hsane⟩ := finish_conclude (live := True) (start := True) (done := fun _ => True) api c a hst
    (by unfold GoodAct; cases a.act <;> simp) id (fun _ => Or.inr trivial)
  exact ⟨es, st, hfin, hsane⟩

theorem shutdown_final {σ : Type} {step : Loop σ → Label → Option (Loop σ)} {sd : σ → Bool} {sr : σ → Option Reason}
    (hst : ∀ s a s', step s a = some s' → sd s.m = true → sd s'.m = true ∧ sr s'.m = sr s.m)
    {c c2 : Loop σ} {ls : List Label} (hrun : run step c ls = some c2) (hsd : sd c.m = true) :
    sd c2.m = true ∧ sr c2.m = sr c.m :=
  run_inv (Inv := fun x => sd x.m = true ∧ sr x.m = sr c.m)
    (fun s a s' hi hs => ⟨(hst s a s' hs hi.1).1, (hst s a s' hs hi.1).2.trans hi.2⟩) ⟨hsd, rfl⟩ hrun

end ErgoVerif.Sup
