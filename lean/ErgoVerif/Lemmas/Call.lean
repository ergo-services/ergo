import ErgoVerif.Model.Call
/-! The caller's response channel and `waitResponse` (`Model/Call.lean`): one invariant behind all of C07. -/
namespace ErgoVerif.Call

structure Inv (s : St) : Prop where
  chan_cap : s.chan.length ≤ cap
  /-- delivered replies are exactly those consumed so far followed by those still buffered (in arrival order) -/
  conserve : s.delivered.reverse = s.consumed.reverse ++ s.chan
  /-- every value returned came out of the channel with the reference of the call that returned it -/
  returned_ok : ∀ r v, (r, Outcome.value v) ∈ s.returned → (⟨r, v⟩ : Reply) ∈ s.consumed ∧ r ∈ s.issued
  returned_issued : ∀ r o, (r, o) ∈ s.returned → r ∈ s.issued
  waiting_issued : ∀ r, s.waiting = some r → r ∈ s.issued
  /-- each call returns at most once: the references of completed calls plus the pending one are the issued ones -/
  count : s.returned.length + (if s.waiting.isSome then 1 else 0) = s.issued.length

theorem inv_init : Inv St.init := by
  constructor <;> simp [St.init, cap]

theorem step_inv (s : St) (o : Op) (h : Inv s) : Inv (step s o) := by
  -- a call that ends, by its reply or by the timeout, is entered under the reference it was waiting on
  have ends {r : Ref} {x : Outcome} (hw : s.waiting = some r) :
      ∀ r' o, (r', o) ∈ (r, x) :: s.returned → r' ∈ s.issued := fun r' o hm => by
    rcases List.mem_cons.mp hm with e | hm
    · cases e; exact h.waiting_issued _ hw
    · exact h.returned_issued r' o hm
  -- the branches of `step`: call (busy; accepted), deliver (room; refused), recv (the awaited reply; a late one;
  -- nothing to take), timeout (waiting; idle)
  fun_cases step s o
  · exact h
  · next r hw =>
    exact { h with
      returned_ok := fun r' v hm => (h.returned_ok r' v hm).imp_right (List.mem_cons_of_mem _)
      returned_issued := fun r' o hm => List.mem_cons_of_mem _ (h.returned_issued r' o hm)
      waiting_issued := fun r' hr => by simp at hr; simp [hr]
      count := by have := h.count; simp [hw] at this ⊢; omega }
  · next hlt =>
    exact { h with
      chan_cap := by simp; simp [cap] at hlt ⊢; omega
      conserve := by simp [h.conserve] }
  · exact { h with }   -- no field of `Inv` mentions `ignored`
  · next rp rest hc hw =>
    exact { h with
      chan_cap := by have := h.chan_cap; rw [hc] at this; exact Nat.le_of_succ_le this
      conserve := by simp [h.conserve, hc]
      returned_ok := fun r' v hm => by
        rcases List.mem_cons.mp hm with e | hm
        · cases e; exact ⟨by simp, h.waiting_issued _ hw⟩
        · exact (h.returned_ok r' v hm).imp_left (List.mem_cons_of_mem _)
      returned_issued := ends hw
      waiting_issued := by simp
      count := by have := h.count; simp [hw] at this ⊢; omega }
  · next r rp rest hc hw hne =>
    exact { h with
      chan_cap := by have := h.chan_cap; rw [hc] at this; exact Nat.le_of_succ_le this
      conserve := by simp [h.conserve, hc]
      returned_ok := fun r' v hm => (h.returned_ok r' v hm).imp_left (List.mem_cons_of_mem _) }
  · exact h
  · next r hw =>
    exact { h with
      returned_ok := fun r' v hm => h.returned_ok r' v (by simpa using hm)
      returned_issued := ends hw
      waiting_issued := by simp
      count := by have := h.count; simp [hw] at this ⊢; omega }
  · exact h

theorem runOps_inv (ops : List Op) : Inv (runOps ops) :=
  List.foldlRecOn ops _ inv_init fun s h o _ => step_inv s o h

end ErgoVerif.Call
