/-
The bit-mask compiler of node/cron_parse.go (model: ErgoVerif.Model.Cron).
-/
import ErgoVerif.Lemmas.CronValid
namespace ErgoVerif.Cron
open ErgoVerif.Generated.Cron

theorem testBit_one_shiftLeft (a v : Nat) : (1 <<< a).testBit v = decide (a = v) := by
  rw [Nat.one_shiftLeft, Nat.testBit_two_pow]

theorem stepped_iff {a b s v : Nat} (hab : a ≤ b) :
    (a ≤ v ∧ v ≤ b ∧ (v - a) % s = 0) ↔ a = v ∨ (a + s ≤ v ∧ v ≤ b ∧ (v - (a + s)) % s = 0) := by
  have e : a + s ≤ v → (v - a) % s = (v - (a + s)) % s := fun h => by
    rw [show v - a = v - (a + s) + s by omega, Nat.add_mod_right]
  constructor
  · rintro ⟨h1, h2, h3⟩
    rcases Nat.eq_or_lt_of_le h1 with rfl | hlt
    · exact .inl rfl
    · have : s ≤ v - a := Nat.le_of_dvd (by omega) (Nat.dvd_of_mod_eq_zero h3)
      exact .inr ⟨by omega, h2, e (by omega) ▸ h3⟩
  · rintro (rfl | ⟨h1, h2, h3⟩)
    · exact ⟨Nat.le_refl _, hab, by simp⟩
    · exact ⟨by omega, h2, e h1 ▸ h3⟩

theorem setRange_spec (mask a b s n v : Nat) (hn : b + 1 ≤ a + n * s) :
    (setRange mask a b s n).testBit v =
      (mask.testBit v || decide (a ≤ v ∧ v ≤ b ∧ (v - a) % s = 0)) := by
  induction n generalizing mask a with
  | zero =>
    have : ¬ (a ≤ v ∧ v ≤ b ∧ (v - a) % s = 0) := by omega
    simp [setRange, this]
  | succ n ih =>
    simp only [setRange]
    split
    · rename_i hab
      rw [ih _ (a + s) (by rw [Nat.succ_mul] at hn; omega), Nat.testBit_or, testBit_one_shiftLeft, Bool.or_assoc,
        ← Bool.decide_or, decide_eq_decide.mpr (stepped_iff hab)]
    · have : ¬ (a ≤ v ∧ v ≤ b ∧ (v - a) % s = 0) := by omega
      simp [this]

/-- in the Boolean form of `Item.numDenote` -/
theorem loopBits_spec (mask a b s v : Nat) (hs : 0 < s) :
    (loopBits mask a b s).testBit v =
      (mask.testBit v || (decide (a ≤ v) && decide (v ≤ b) && decide ((v - a) % s = 0))) := by
  rw [loopBits, setRange_spec, Bool.decide_and, Bool.decide_and, Bool.and_assoc]
  have : b + 1 ≤ (b + 1) * s := Nat.le_mul_of_pos_right _ hs
  omega

theorem bitSet_eq_testBit (x i : Nat) : bitSet x i = x.testBit i := by
  unfold bitSet
  rw [Nat.one_shiftLeft]
  by_cases h : x.testBit i = true
  · rw [h]
    have : (x &&& 2 ^ i).testBit i = true := by simp [Nat.testBit_and, h]
    have hne : x &&& 2 ^ i ≠ 0 := by
      intro h0; rw [h0] at this; simp at this
    simp; omega
  · have hf : x.testBit i = false := by simpa using h
    rw [hf]
    have : x &&& 2 ^ i = 0 := by
      apply Nat.eq_of_testBit_eq
      intro j
      simp only [Nat.testBit_and, Nat.testBit_two_pow, Nat.zero_testBit]
      by_cases hij : i = j
      · subst hij; simp [hf]
      · simp [hij]
    simp [this]

/-- the type nibble is bits 60..63 (`cronMaskType` = 0xF<<60); field values are at most 59, so below 60 a mask holds
    values and from 60 on its type: this is where every `60` below comes from -/
theorem cronMaskType_testBit (i : Nat) : cronMaskType.testBit i = decide (60 ≤ i ∧ i < 64) := by
  rw [show cronMaskType = (2 ^ 4 - 1) <<< 60 by decide, Nat.testBit_shiftLeft, Nat.testBit_two_pow_sub_one]
  by_cases h : 60 ≤ i <;> simp [h] <;> omega

theorem maskType_congr {x y : Nat} (h : ∀ v, 60 ≤ v → x.testBit v = y.testBit v) : maskType x = maskType y := by
  unfold maskType
  apply Nat.eq_of_testBit_eq
  intro i
  simp only [Nat.testBit_and, cronMaskType_testBit]
  by_cases hi : 60 ≤ i
  · rw [h i hi]
  · have : ¬ (60 ≤ i ∧ i < 64) := by omega
    simp [this]

/-- `k.mask` plays two parts: the empty mask a field of kind `k` starts from, and the type tag that `maskType` reads
    off a mask (each `cronFieldX.mask` of the Go source is the `cronMaskTypeX` of its kind) -/
theorem Kind.maskType_mask (k : Kind) : maskType k.mask = k.mask := by cases k <;> decide

theorem Kind.hi_lt (k : Kind) : k.hi < 60 := by cases k <;> decide

theorem Kind.mask_testBit_low (k : Kind) {v : Nat} (hv : v ≤ k.hi) : k.mask.testBit v = false := by
  rw [← k.maskType_mask, maskType, Nat.testBit_and, cronMaskType_testBit]
  have : ¬ (60 ≤ v ∧ v < 64) := fun h => Nat.not_lt.mpr h.1 (Nat.lt_of_le_of_lt hv k.hi_lt)
  simp [this]

/-- the values an option contributes to the bit mask -/
def Item.numDenote (k : Kind) (v : Nat) : Item → Bool
  | .num n => v = n
  | .range a b => a ≤ v && v ≤ b
  | .rangeStep a b s => a ≤ v && v ≤ b && (v - a) % s = 0
  | .starStep s => k.lo ≤ v && v ≤ k.hi && (v - k.lo) % s = 0
  | _ => false

/-- the special mask a valid option appends; the others set value bits -/
def Item.specialMask : Item → Option Nat
  | .last => some cronMaskTypeLastDM
  | .lastW w => some (cronMaskTypeLastDW ||| w)
  | .nth w n => some (cronMaskTypeNDW ||| (w <<< 8) ||| n)
  | _ => none

theorem compileItem_bits (k : Kind) (acc : Acc) (it : Item) (hv : it.valid k = true) (v : Nat) :
    (compileItem k acc it).bits.testBit v = (acc.bits.testBit v || it.numDenote k v) := by
  cases it with
  | num n => simp only [compileItem, Item.numDenote, Nat.testBit_or, testBit_one_shiftLeft, eq_comm]
  | range a b => simp [compileItem, Item.numDenote, loopBits_spec, Nat.mod_one]
  | rangeStep a b s =>
    obtain ⟨_, _, _, _, hs, _⟩ := Item.valid_iff.mp hv
    exact loopBits_spec _ _ _ _ _ hs
  | starStep s =>
    obtain ⟨_, hs, _⟩ := Item.valid_iff.mp hv
    exact loopBits_spec _ _ _ _ _ hs
  | last => simp [compileItem, Item.numDenote]
  | lastW w => simp only [compileItem, Item.numDenote]; split <;> simp
  | nth w n => simp [compileItem, Item.numDenote]

theorem compileItem_special (k : Kind) (acc : Acc) (it : Item) (hv : it.valid k = true) :
    (compileItem k acc it).special = acc.special ++ it.specialMask.toList := by
  cases it <;> simp [compileItem, Item.specialMask]
  -- a valid `wL` stands in the weekday field: the `LastDM | n` case of the `switch mtype` is dead
  rw [(Item.valid_iff.mp hv).1]; rfl

theorem numDenote_le (k : Kind) (it : Item) (hv : it.valid k = true) {v : Nat} (h : it.numDenote k v = true) :
    v ≤ k.hi := by
  replace hv := Item.valid_iff.mp hv
  cases it <;> simp only [Item.numDenote, Bool.and_eq_true, decide_eq_true_eq] at hv h <;> first | omega | cases h

theorem numDenote_first (k : Kind) (it : Item) (hv : it.valid k = true) (hn : it.specialMask = none) :
    ∃ v, v ≤ k.hi ∧ it.numDenote k v = true := by
  have hk : k.lo ≤ k.hi := by cases k <;> decide
  replace hv := Item.valid_iff.mp hv
  cases it <;> simp only [Item.numDenote, Bool.and_eq_true, decide_eq_true_eq] at hv ⊢
  case num n => exact ⟨n, hv.2, rfl⟩
  case range a b => exact ⟨a, by omega, by omega⟩
  case rangeStep a b s => exact ⟨a, by omega, by simp; omega⟩
  case starStep s => exact ⟨k.lo, hk, by simp [hk]⟩
  all_goals cases hn

theorem fold_bits (k : Kind) (items : List Item) (hv : ∀ it ∈ items, it.valid k = true) (acc : Acc) (v : Nat) :
    (items.foldl (compileItem k) acc).bits.testBit v = (acc.bits.testBit v || items.any (Item.numDenote k v)) := by
  induction items generalizing acc with
  | nil => simp
  | cons it rest ih =>
    simp only [List.foldl_cons, List.any_cons]
    rw [ih (fun i hi => hv i (List.mem_cons_of_mem _ hi)), compileItem_bits k acc it (hv it List.mem_cons_self)]
    simp [Bool.or_assoc]

theorem fold_special (k : Kind) (items : List Item) (hv : ∀ it ∈ items, it.valid k = true) (acc : Acc) :
    (items.foldl (compileItem k) acc).special = acc.special ++ items.filterMap Item.specialMask := by
  induction items generalizing acc with
  | nil => simp
  | cons it rest ih =>
    simp only [List.foldl_cons]
    rw [ih (fun i hi => hv i (List.mem_cons_of_mem _ hi)), compileItem_special k acc it (hv it List.mem_cons_self)]
    cases h : it.specialMask <;> simp [h]

/-- result[0] after the loop over the options -/
def fieldBits (k : Kind) (items : List Item) : Nat := (items.foldl (compileItem k) ⟨k.mask, []⟩).bits

section field
variable (k : Kind) (items : List Item) (hv : ∀ it ∈ items, it.valid k = true)
include hv

theorem fieldBits_testBit (v : Nat) :
    (fieldBits k items).testBit v = (k.mask.testBit v || items.any (Item.numDenote k v)) :=
  fold_bits k items hv ⟨k.mask, []⟩ v

theorem fieldBits_high {v : Nat} (h : k.hi < v) : (fieldBits k items).testBit v = k.mask.testBit v := by
  rw [fieldBits_testBit k items hv v]
  have : items.any (Item.numDenote k v) = false :=
    List.any_eq_false.mpr fun it hit hd => Nat.not_le_of_lt h (numDenote_le k it (hv it hit) hd)
  simp [this]

theorem fieldBits_type : maskType (fieldBits k items) = k.mask := by
  rw [← k.maskType_mask]
  exact maskType_congr fun v hv60 => fieldBits_high k items hv (Nat.lt_of_lt_of_le k.hi_lt hv60)

/-- from bit 64 on result[0] has the bits of the field's empty mask: none -/
theorem fieldBits_lt : fieldBits k items < 2 ^ 64 := by
  apply Nat.lt_pow_two_of_testBit
  intro i hi
  have hlt : k.mask < 2 ^ 64 := by cases k <;> decide
  rw [fieldBits_high k items hv (Nat.lt_of_lt_of_le k.hi_lt (by omega : 60 ≤ i)),
    Nat.testBit_lt_two_pow (Nat.lt_of_lt_of_le hlt (Nat.pow_le_pow_right (by omega) hi))]

/-- a numeric option sets a value bit, so result[0] is no longer the field's empty mask -/
theorem fieldBits_ne_mask {it : Item} (hit : it ∈ items) (hn : it.specialMask = none) : fieldBits k items ≠ k.mask := by
  intro h
  obtain ⟨v, hle, hd⟩ := numDenote_first k it (hv it hit) hn
  have h1 := fieldBits_testBit k items hv v
  rw [h, k.mask_testBit_low hle, List.any_eq_true.mpr ⟨it, hit, hd⟩] at h1
  cases h1

/-- "check if the first element has an empty mask": result[0] is dropped when no option set a bit -/
theorem compileField_list : compileField k (.list items) =
    (if fieldBits k items = k.mask then [] else [fieldBits k items]) ++ items.filterMap Item.specialMask := by
  have hsp : (items.foldl (compileItem k) ⟨k.mask, []⟩).special = items.filterMap Item.specialMask := by
    rw [fold_special k items hv]; simp
  simp only [compileField, hsp, show k.mask &&& cronMaskType = k.mask from k.maskType_mask]
  show (if fieldBits k items = k.mask then _ else fieldBits k items :: _) = _
  split <;> rfl

theorem mem_compileField {m : Nat} (hm : m ∈ compileField k (.list items)) :
    m = fieldBits k items ∨ ∃ it ∈ items, it.specialMask = some m := by
  rw [compileField_list k items hv] at hm
  rcases List.mem_append.mp hm with hm | hm
  · split at hm
    · cases hm
    · exact .inl (List.mem_singleton.mp hm)
  · exact .inr (List.mem_filterMap.mp hm)

theorem compileField_list_ne_nil (hne : items ≠ []) : compileField k (.list items) ≠ [] := by
  obtain ⟨it, hit⟩ := List.exists_mem_of_ne_nil _ hne
  rw [compileField_list k items hv]
  cases h : it.specialMask with
  | some m => exact List.append_ne_nil_of_right_ne_nil _ (List.ne_nil_of_mem (List.mem_filterMap.mpr ⟨it, hit, h⟩))
  | none =>
    rw [if_neg (fieldBits_ne_mask k items hv hit h)]
    simp

end field

end ErgoVerif.Cron
