import ErgoVerif.Model.Link
/-!
The pipeline invariant behind C13: for a pair (src, dst) whose two order bytes are non-zero and a
constant pool, all frames of the pair travel through ONE link and ONE receive queue, and

    delivered|pair ++ queue*|pair ++ link*|pair = sent|pair

holds in every reachable state, whatever the interleaving of `deliver` / `work` events.
-/
namespace ErgoVerif.Link
open ErgoVerif.Gen.Arith

theorem upd_same {α} (f : Nat → α) (i : Nat) (v : α) : upd f i v i = v := by simp [upd]
theorem upd_other {α} (f : Nat → α) {i j : Nat} (v : α) (h : j ≠ i) : upd f i v j = f j := by simp [upd, h]

def pf (src dst : Nat) (fr : Frame) : Bool := pair src dst fr.msg

/-- the pair's messages among a list of frames, in list order -/
def proj (src dst : Nat) (l : List Frame) : List Msg := (l.filter (pf src dst)).map (·.msg)

@[simp] theorem proj_nil (src dst : Nat) : proj src dst [] = [] := rfl

theorem proj_append (src dst : Nat) (a b : List Frame) :
    proj src dst (a ++ b) = proj src dst a ++ proj src dst b := by
  simp [proj, List.filter_append]

theorem proj_cons (src dst : Nat) (fr : Frame) (l : List Frame) :
    proj src dst (fr :: l) = proj src dst [fr] ++ proj src dst l :=
  proj_append src dst [fr] l

theorem proj_singleton_nil {src dst : Nat} {fr : Frame} (h : ¬ pf src dst fr = true) : proj src dst [fr] = [] := by
  simp [proj, h]

theorem filter_snoc (src dst : Nat) (fr : Frame) (l : List Msg) :
    (l ++ [fr.msg]).filter (pair src dst) = l.filter (pair src dst) ++ proj src dst [fr] := by
  unfold proj pf
  by_cases h : pair src dst fr.msg = true <;> simp [List.filter_append, h]

/-! Links and receive queues are both families of FIFO lanes, changed only by `upd`: a frame is pushed at the back of a
lane or popped from the front of one.  `Conc src dst f star` says the pair's frames all sit in lane `star`
(`Inv.links_other` and `Inv.queues_other` below are `Conc` written out). -/
section Lanes
variable {src dst : Nat} {f : Nat → List Frame} {star i : Nat} {fr : Frame} {rest : List Frame}

def Conc (src dst : Nat) (f : Nat → List Frame) (star : Nat) : Prop := ∀ l, l ≠ star → proj src dst (f l) = []

theorem Conc.push (h : Conc src dst f star) (hp : pf src dst fr = true → i = star) :
    Conc src dst (upd f i (f i ++ [fr])) star := by
  intro l hl
  by_cases e : l = i
  · subst e
    rw [upd_same, proj_append, h l hl, proj_singleton_nil (fun hp' => hl (hp hp'))]; rfl
  · rw [upd_other _ _ e]; exact h l hl

theorem Conc.pop (h : Conc src dst f star) (hi : f i = fr :: rest) : Conc src dst (upd f i rest) star := by
  intro l hl
  by_cases e : l = i
  · subst e
    have := h l hl
    rw [hi, proj_cons] at this
    rw [upd_same]; exact (List.append_eq_nil_iff.mp this).2
  · rw [upd_other _ _ e]; exact h l hl

theorem proj_push (hp : pf src dst fr = true → i = star) :
    proj src dst (upd f i (f i ++ [fr]) star) = proj src dst (f star) ++ proj src dst [fr] := by
  by_cases e : star = i
  · subst e; rw [upd_same, proj_append]
  · rw [upd_other _ _ e, proj_singleton_nil (fun hp' => e (hp hp').symm), List.append_nil]

theorem proj_pop (h : Conc src dst f star) (hi : f i = fr :: rest) :
    proj src dst [fr] ++ proj src dst (upd f i rest star) = proj src dst (f star) := by
  by_cases e : star = i
  · subst e; rw [upd_same, hi]; exact (proj_cons src dst fr rest).symm
  · have := h i (Ne.symm e)
    rw [hi, proj_cons] at this
    rw [upd_other _ _ e, (List.append_eq_nil_iff.mp this).1, List.nil_append]

theorem mem_push {x : Frame} {l : Nat} (h : x ∈ upd f i (f i ++ [fr]) l) : x ∈ f l ∨ x = fr := by
  by_cases e : l = i
  · subst e; rw [upd_same] at h; simpa using h
  · rw [upd_other _ _ e] at h; exact Or.inl h

theorem mem_pop {x : Frame} {l : Nat} (hi : f i = fr :: rest) (h : x ∈ upd f i rest l) : x ∈ f l := by
  by_cases e : l = i
  · subst e; rw [upd_same] at h; rw [hi]; exact List.mem_cons_of_mem _ h
  · rw [upd_other _ _ e] at h; exact h

end Lanes

/-- the link all ordered frames of the sender `src` take in a pool -/
def linkStar (pool : List Nat) (src : Nat) : Nat := pool.getD (poolIndex (orderByte src) pool.length) 0
/-- the receive queue all frames with the wire byte of `dst` take (`0` stands for the reader's round-robin counter,
    which a non-zero order byte does not look at: `queueIndex_indep`) -/
def queueStar (nq : Nat) (dst : Nat) : Nat := queueIndex (orderByte dst) 0 nq

structure Inv (pool : List Nat) (nq src dst : Nat) (s : St) : Prop where
  pool_eq : s.pool = pool
  nq_eq : s.nq = nq
  pipe : s.delivered.filter (pair src dst) ++ proj src dst (s.queues (queueStar nq dst))
           ++ proj src dst (s.links (linkStar pool src)) = s.sent.filter (pair src dst)
  links_other : ∀ l, l ≠ linkStar pool src → proj src dst (s.links l) = []
  queues_other : ∀ q, q ≠ queueStar nq dst → proj src dst (s.queues q) = []
  wire : ∀ l fr, fr ∈ s.links l → pf src dst fr = true → fr.wire = orderByte dst

theorem inv_init (pool : List Nat) (nq src dst : Nat) : Inv pool nq src dst (init pool nq) :=
  ⟨rfl, rfl, rfl, fun _ _ => rfl, fun _ _ => rfl, fun _ _ h => by simp [init] at h⟩

theorem roundRobin_false {o : Nat} (h : o ≠ 0) : roundRobin o = false := by
  simp [roundRobin, h]

theorem queueIndex_indep {o : Nat} (h : o ≠ 0) (n n' nq : Nat) : queueIndex o n nq = queueIndex o n' nq := by
  have : o > 0 := Nat.pos_of_ne_zero h
  simp [queueIndex, this]

/-- the invariant survives every event that is not a pool change, provided the pair's own sends keep order -/
theorem step_inv {pool : List Nat} {nq src dst : Nat} {s : St}
    (hs : orderByte src ≠ 0) (hd : orderByte dst ≠ 0) (h : Inv pool nq src dst s) (e : Ev)
    (hnp : e.isPoolChange = false) (hk : ∀ k, e = .send src dst k → k = true) :
    Inv pool nq src dst (step s e) := by
  fun_cases step s e
  case case2 a b keep hp m fr c =>                    -- send
    -- a frame of the pair is ordered: it goes to the pair's link and carries the pair's wire byte
    have key : pf src dst fr = true → c.1 = linkStar pool src ∧ fr.wire = orderByte dst := by
      intro hpm
      simp only [pf, pair, Bool.and_eq_true, decide_eq_true_eq] at hpm
      obtain ⟨ha, hb⟩ : a = src ∧ b = dst := hpm
      subst ha hb
      cases hk keep rfl
      refine ⟨?_, by simp [fr, orderOf]⟩
      simp only [c, chooseLink, orderOf, ↓reduceIte, roundRobin_false hs, Bool.false_eq_true]
      simp [linkStar, h.pool_eq]
    refine ⟨h.pool_eq, h.nq_eq, ?_, Conc.push h.links_other (fun hp => (key hp).1), h.queues_other, ?_⟩
    · dsimp only
      rw [proj_push (fun hp => (key hp).1), show m = fr.msg from rfl, filter_snoc, ← h.pipe]
      simp only [List.append_assoc]
    · intro l fr' hmem hpf
      rcases mem_push hmem with hmem | rfl
      · exact h.wire _ _ hmem hpf
      · exact (key hpf).2
  case case4 l fr rest hl n q =>                      -- deliver
    -- a frame of the pair carries the pair's wire byte, which alone selects its queue
    have hq : pf src dst fr = true → q = queueStar nq dst := fun hp => by
      simp only [q, h.wire l fr (by rw [hl]; exact List.mem_cons_self) hp, h.nq_eq]; exact queueIndex_indep hd _ _ _
    refine ⟨h.pool_eq, h.nq_eq, ?_, Conc.pop h.links_other hl, Conc.push h.queues_other hq,
      fun l0 fr' hmem => h.wire l0 fr' (mem_pop hl hmem)⟩
    dsimp only
    rw [proj_push hq, ← h.pipe, ← proj_pop h.links_other hl]
    simp only [List.append_assoc]
  case case6 q fr rest hq =>                          -- work
    refine ⟨h.pool_eq, h.nq_eq, ?_, h.links_other, Conc.pop h.queues_other hq, h.wire⟩
    dsimp only
    rw [filter_snoc, ← h.pipe, ← proj_pop h.queues_other hq]
    simp only [List.append_assoc]
  case case1 | case3 | case5 => exact h               -- no link, nothing to read, nothing queued
  all_goals cases hnp

theorem run_eq_foldl (s : St) (es : List Ev) : run s es = es.foldl step s := by
  induction es generalizing s with
  | nil => rfl
  | cons e es ih => exact ih _

theorem run_inv {pool : List Nat} {nq src dst : Nat}
    (hs : orderByte src ≠ 0) (hd : orderByte dst ≠ 0) (es : List Ev) {s : St} (h : Inv pool nq src dst s)
    (hnp : ∀ e ∈ es, e.isPoolChange = false) (hk : ∀ e ∈ es, ∀ k, e = .send src dst k → k = true) :
    Inv pool nq src dst (run s es) :=
  run_eq_foldl s es ▸ List.foldlRecOn (motive := Inv pool nq src dst) es step h
    (fun _ h e he => step_inv hs hd h e (hnp e he) (hk e he))

def SeqOk (s : St) : Prop := s.sent.map (·.seq) = List.range s.sent.length

theorem step_sent (s : St) (e : Ev) :
    (step s e).sent = s.sent ∨ ∃ a b, (step s e).sent = s.sent ++ [⟨a, b, s.sent.length⟩] := by
  fun_cases step s e
  case case2 a b _ _ _ _ _ => exact .inr ⟨a, b, rfl⟩      -- send
  all_goals exact .inl rfl

theorem step_seqOk {s : St} (h : SeqOk s) (e : Ev) : SeqOk (step s e) := by
  unfold SeqOk at *
  rcases step_sent s e with h1 | ⟨a, b, h1⟩
  · rw [h1]; exact h
  · rw [h1, List.map_append, List.length_append, h, List.length_singleton, List.range_succ]; rfl

theorem run_seqOk (es : List Ev) {s : St} (h : SeqOk s) : SeqOk (run s es) :=
  run_eq_foldl s es ▸ List.foldlRecOn (motive := SeqOk) es step h (fun _ h e _ => step_seqOk h e)

end ErgoVerif.Link
