/-
`turn` is the body of the loop `cut` (`ErgoVerif.Model.Stream`) without the recursion: what read()+serve() do with the
bytes buffered so far.  Everything about the loop is an induction along the frames it cuts (`cut_induct`,
`cutAll_induct`) with the facts about one turn.
-/
import ErgoVerif.Model.StreamLink
namespace ErgoVerif.Stream

/-- the guard `if l < 8` of read() on a real link, as extracted (`Generated.Proto.readMinLen`) -/
theorem linkCfg_minLen (max : Nat) : (linkCfg max).minLen = 8 := rfl

theorem lenField_append (f r : Bytes) (h : 6 ≤ f.length) : lenField (f ++ r) = lenField f := by
  match f, h with
  | a :: b :: c :: d :: e :: g :: t, _ => simp [lenField]

theorem lenField_take (buf : Bytes) (l : Nat) (h6 : 6 ≤ l) (hl : l ≤ buf.length) :
    lenField (buf.take l) = lenField buf := by
  have := lenField_append (buf.take l) (buf.drop l) (by simp; omega)
  rw [List.take_append_drop] at this
  exact this.symm

/-- an accepted frame has at least 7 bytes (`buf.B[6]` was readable) -/
theorem serveCheck_none_len (cfg : Cfg) (f : Bytes) : serveCheck cfg f = none → 7 ≤ f.length := by
  fun_cases serveCheck cfg f <;> intro h <;> cases h
  next h6 => exact (List.getElem?_eq_some_iff.mp h6).1

theorem serveCheck_crash_len (cfg : Cfg) (f : Bytes) : serveCheck cfg f = some .crash → f.length < 7 := by
  fun_cases serveCheck cfg f <;> intro h <;> cases h
  all_goals next h0 => have := List.getElem?_eq_none_iff.mp h0; omega

@[simp] theorem Res.prepend_nil (r : Res) : r.prepend [] = r := by
  cases r <;> simp [Res.prepend]

@[simp] theorem Res.prepend_prepend (fs gs : List Bytes) (r : Res) :
    (r.prepend gs).prepend fs = r.prepend (fs ++ gs) := by
  cases r <;> simp [Res.prepend]

@[simp] theorem Res.state_prepend (fs : List Bytes) (r : Res) : (r.prepend fs).state = r.state := by
  cases r <;> simp [Res.prepend, Res.state]

@[simp] theorem Res.frames_prepend (fs : List Bytes) (r : Res) :
    (r.prepend fs).frames = fs ++ r.frames := by
  cases r <;> simp [Res.prepend, Res.frames]

theorem wait_cases (cfg : Cfg) (buf : Bytes) (e : Nat) :
    wait cfg buf e = .closed [] .tooLarge ∨ wait cfg buf e = .more [] buf := by
  unfold wait; split <;> simp

/-- block until `e` bytes are there, close the link, or cut a frame of `l` bytes -/
inductive Turn
  | wait (e : Nat) | close (w : Close) | frame (l : Nat)

def turn (cfg : Cfg) (buf : Bytes) : Turn :=
  if buf.length < 8 then .wait 8
  else if lenField buf < cfg.minLen then .close .badLen
  else if cfg.max > 0 ∧ lenField buf > cfg.max then .close .tooLong
  else if buf.length < lenField buf then .wait (lenField buf)
  else match serveCheck cfg (buf.take (lenField buf)) with
    | some w => .close w
    | none => .frame (lenField buf)

theorem cut_succ (cfg : Cfg) (fuel : Nat) (buf : Bytes) : cut cfg (fuel + 1) buf =
    match turn cfg buf with
    | .wait e => wait cfg buf e
    | .close w => .closed [] w
    | .frame l => (cut cfg fuel (buf.drop l)).prepend [buf.take l] := by
  fun_cases turn cfg buf <;> simp only [cut, *, and_self, if_true, if_false]

theorem turn_frame {cfg : Cfg} {buf : Bytes} {l : Nat} : turn cfg buf = .frame l →
    l = lenField buf ∧ 7 ≤ l ∧ l ≤ buf.length ∧ cfg.minLen ≤ l ∧ (cfg.max > 0 → l ≤ cfg.max) ∧
    serveCheck cfg (buf.take l) = none := by
  fun_cases turn cfg buf <;> intro h <;> cases h
  next h2 _ hs =>
    have h7 := serveCheck_none_len _ _ hs
    rw [List.length_take] at h7
    exact ⟨rfl, by omega, by omega, by omega, fun hpos => Nat.le_of_not_lt fun hgt => h2 ⟨hpos, hgt⟩, hs⟩

/-- serve() only panics on a frame read() let through although it is shorter than 7 bytes -/
theorem turn_crash {cfg : Cfg} {buf : Bytes} : turn cfg buf = .close .crash → cfg.minLen < 7 := by
  fun_cases turn cfg buf <;> intro h <;> cases h
  next hs =>
    have := serveCheck_crash_len _ _ hs
    rw [List.length_take] at this
    omega

theorem wait_more {cfg : Cfg} {buf : Bytes} {e : Nat} (h1 : ¬ (cfg.max > 0 ∧ e > cfg.max)) (h2 : buf.length ≤ e) :
    wait cfg buf e = .more [] buf := by
  rw [wait, readLimit, if_neg h1, if_neg (Nat.not_lt.2 h2)]

/-- `ReadDataFrom` does not refuse while read() waits with less than it asked for.  `hmax`: a limit below the 8 header
    bytes would make it refuse the header itself, at a moment that depends on how the bytes arrive. -/
theorem turn_wait {cfg : Cfg} (hmax : cfg.max = 0 ∨ 8 ≤ cfg.max) {buf : Bytes} {e : Nat} :
    turn cfg buf = .wait e → wait cfg buf e = .more [] buf := by
  fun_cases turn cfg buf <;> intro h <;> cases h <;> exact wait_more (by omega) (by omega)

theorem turn_append {cfg : Cfg} {buf : Bytes} (c : Bytes) (h : ∀ e, turn cfg buf ≠ .wait e) :
    turn cfg (buf ++ c) = turn cfg buf := by
  unfold turn at h ⊢
  by_cases h8 : buf.length < 8
  · exact absurd (if_pos h8) (h 8)
  have hl : lenField (buf ++ c) = lenField buf := lenField_append _ _ (by omega)
  have h8' : ¬ (buf ++ c).length < 8 := by simp; omega
  simp only [if_neg h8, if_neg h8', hl] at h ⊢
  by_cases h1 : lenField buf < cfg.minLen
  · simp only [if_pos h1]
  by_cases h2 : cfg.max > 0 ∧ lenField buf > cfg.max
  · simp only [if_neg h1, if_pos h2]
  by_cases h3 : buf.length < lenField buf
  · exact absurd (by simp only [if_neg h1, if_neg h2, if_pos h3]) (h (lenField buf))
  have h3' : ¬ (buf ++ c).length < lenField buf := by simp; omega
  simp only [if_neg h1, if_neg h2, if_neg h3, if_neg h3', List.take_append_of_le_length (Nat.le_of_not_lt h3)]

/-- Induction along the frames `cut` takes off `buf`.  Running out of fuel looks like waiting (`.more [] buf`): a caller
    who runs `cut` with enough fuel (`cutAll`) has nothing to show for it. -/
theorem cut_induct (cfg : Cfg) (P : Bytes → Res → Prop)
    (hwait : ∀ buf e, turn cfg buf = .wait e → P buf (wait cfg buf e))
    (hclose : ∀ buf w, turn cfg buf = .close w → P buf (.closed [] w))
    (hframe : ∀ buf l r, turn cfg buf = .frame l → P (buf.drop l) r → P buf (r.prepend [buf.take l])) :
    ∀ fuel buf, (fuel ≤ buf.length → ∀ b, P b (.more [] b)) → P buf (cut cfg fuel buf) := by
  intro fuel
  induction fuel with
  | zero => exact fun buf h => h (Nat.zero_le _) buf
  | succ n ih =>
    intro buf hout
    rw [cut_succ]
    split
    · next e ht => exact hwait _ _ ht
    · next w ht => exact hclose _ _ ht
    · next l ht =>
      obtain ⟨_, h7, hle, _⟩ := turn_frame ht
      exact hframe _ _ _ ht (ih _ (fun h => hout (by rw [List.length_drop] at h; omega)))

theorem cut_fuel (cfg : Cfg) (buf : Bytes) (f1 f2 : Nat) (h1 : buf.length < f1)
    (h2 : buf.length < f2) : cut cfg f1 buf = cut cfg f2 buf := by
  induction f1 generalizing buf f2 with
  | zero => omega
  | succ n ih =>
    obtain ⟨m, rfl⟩ : ∃ m, f2 = m + 1 := ⟨f2 - 1, by omega⟩
    rw [cut_succ, cut_succ]
    split
    · rfl
    · rfl
    · next l ht =>
      obtain ⟨_, h7, hle, _⟩ := turn_frame ht
      rw [ih _ m (by simp; omega) (by simp; omega)]

theorem cutAll_eq (cfg : Cfg) (buf : Bytes) : cutAll cfg buf =
    match turn cfg buf with
    | .wait e => wait cfg buf e
    | .close w => .closed [] w
    | .frame l => (cutAll cfg (buf.drop l)).prepend [buf.take l] := by
  unfold cutAll
  rw [cut_succ]
  split
  · rfl
  · rfl
  · next l ht =>
    obtain ⟨_, h7, hle, _⟩ := turn_frame ht
    rw [cut_fuel cfg _ buf.length ((buf.drop l).length + 1) (by simp; omega) (by omega)]

theorem cutAll_induct (cfg : Cfg) (P : Bytes → Res → Prop)
    (hwait : ∀ buf e, turn cfg buf = .wait e → P buf (wait cfg buf e))
    (hclose : ∀ buf w, turn cfg buf = .close w → P buf (.closed [] w))
    (hframe : ∀ buf l r, turn cfg buf = .frame l → P (buf.drop l) r → P buf (r.prepend [buf.take l]))
    (buf : Bytes) : P buf (cutAll cfg buf) :=
  cut_induct cfg P hwait hclose hframe _ buf (fun h => absurd h (Nat.not_succ_le_self _))

theorem cutAll_append (cfg : Cfg) (hmax : cfg.max = 0 ∨ 8 ≤ cfg.max) (buf c : Bytes) :
    cutAll cfg (buf ++ c) = match cutAll cfg buf with
      | .more fs r => (cutAll cfg (r ++ c)).prepend fs
      | .closed fs w => .closed fs w := by
  refine cutAll_induct cfg (fun buf res => cutAll cfg (buf ++ c) = match res with
      | .more fs r => (cutAll cfg (r ++ c)).prepend fs
      | .closed fs w => .closed fs w) ?_ ?_ ?_ buf
  · intro buf e ht
    rw [turn_wait hmax ht]; simp
  · intro buf w ht
    rw [cutAll_eq, turn_append c (by simp [ht]), ht]
  · intro buf l res ht ih
    obtain ⟨_, _, hle, _⟩ := turn_frame ht
    rw [cutAll_eq, turn_append c (by simp [ht]), ht]
    simp only [List.take_append_of_le_length hle, List.drop_append_of_le_length hle, ih]
    cases res with
    | more gs r => exact Res.prepend_prepend _ _ _
    | closed gs w => rfl

theorem readAll_closed (cfg : Cfg) (s : RState) (w : Close) (h : s.closed = some w)
    (chunks : List Bytes) : readAll cfg s chunks = (s, []) := by
  induction chunks with
  | nil => rfl
  | cons c cs ih => simp [readAll, stepChunk, h, ih]

theorem cutAll_nil (cfg : Cfg) : cutAll cfg [] = .more [] [] := by
  rw [cutAll_eq]; simp [turn, wait]

theorem stepChunk_open (cfg : Cfg) (buf c : Bytes) :
    stepChunk cfg ⟨buf, none⟩ c = ((cutAll cfg (buf ++ c)).state, (cutAll cfg (buf ++ c)).frames) := by
  simp only [stepChunk]; cases cutAll cfg (buf ++ c) <;> rfl

/-- `readAll_eq_cutAll` strengthened for the induction over the chunks: between two chunks the reader is in the state
    `cutAll` gives for the bytes `S` received so far, and `cutAll_append` says what the next chunk does to that -/
theorem readAll_from (cfg : Cfg) (hmax : cfg.max = 0 ∨ 8 ≤ cfg.max) (chunks : List Bytes) : ∀ S : Bytes,
    (readAll cfg (cutAll cfg S).state chunks).1 = (cutAll cfg (S ++ chunks.flatten)).state ∧
    (cutAll cfg S).frames ++ (readAll cfg (cutAll cfg S).state chunks).2 =
      (cutAll cfg (S ++ chunks.flatten)).frames := by
  induction chunks with
  | nil => intro S; simp [readAll]
  | cons c cs ih =>
    intro S
    cases hS : cutAll cfg S with
    | more fs r =>
      have h := ih (S ++ c)
      rw [cutAll_append cfg hmax S c, hS, Res.state_prepend, Res.frames_prepend] at h
      rw [List.flatten_cons, ← List.append_assoc]
      show (readAll cfg ⟨r, none⟩ (c :: cs)).1 = _ ∧ fs ++ (readAll cfg ⟨r, none⟩ (c :: cs)).2 = _
      simp only [readAll, stepChunk_open, ← List.append_assoc]
      exact h
    | closed fs w =>
      rw [cutAll_append cfg hmax S, hS]
      exact ⟨congrArg Prod.fst (readAll_closed cfg _ w rfl _),
        by rw [readAll_closed cfg _ w rfl]; exact List.append_nil fs⟩

theorem readAll_eq_cutAll (cfg : Cfg) (hmax : cfg.max = 0 ∨ 8 ≤ cfg.max) (chunks : List Bytes) :
    readAll cfg RState.init chunks =
      ((cutAll cfg chunks.flatten).state, (cutAll cfg chunks.flatten).frames) := by
  have := readAll_from cfg hmax chunks []
  rw [cutAll_nil] at this
  exact Prod.ext this.1 this.2

theorem cutAll_wf_cons (cfg : Cfg) (f rest : Bytes) (h : WF cfg f) :
    cutAll cfg (f ++ rest) = (cutAll cfg rest).prepend [f] := by
  obtain ⟨h8, hl, hm, hmin, hs⟩ := h
  have hlen : lenField (f ++ rest) = f.length := by rw [lenField_append _ _ (by omega), hl]
  have h3 : ¬ (cfg.max > 0 ∧ f.length > cfg.max) := fun ⟨a, b⟩ => by have := hm a; omega
  have ht : turn cfg (f ++ rest) = .frame f.length := by
    unfold turn
    rw [hlen, if_neg (by simp; omega), if_neg (by omega), if_neg h3, if_neg (by simp), List.take_left' rfl, hs]
  rw [cutAll_eq, ht]
  simp only [List.take_left' rfl, List.drop_left' rfl]

theorem cutAll_wf_frames (cfg : Cfg) (fs : List Bytes) (hwf : ∀ f ∈ fs, WF cfg f) :
    cutAll cfg fs.flatten = .more fs [] := by
  induction fs with
  | nil => exact cutAll_nil cfg
  | cons f fs ih =>
    rw [List.flatten_cons, cutAll_wf_cons cfg f _ (hwf f (by simp)),
      ih (fun g hg => hwf g (by simp [hg]))]
    rfl

/-- segmentation independence for a stream of well-formed frames: however the byte stream
    is chopped into chunks, exactly the frames come out, in order, and nothing stays buffered -/
theorem segmentation (cfg : Cfg) (hmax : cfg.max = 0 ∨ 8 ≤ cfg.max) (fs chunks : List Bytes)
    (hwf : ∀ f ∈ fs, WF cfg f) (hj : chunks.flatten = fs.flatten) :
    readAll cfg RState.init chunks = (⟨[], none⟩, fs) := by
  rw [readAll_eq_cutAll cfg hmax, hj, cutAll_wf_frames cfg fs hwf]; rfl

theorem cutAll_conserve (cfg : Cfg) (buf : Bytes) :
    match cutAll cfg buf with
    | .more fs r => fs.flatten ++ r = buf
    | .closed fs _ => fs.flatten <+: buf := by
  refine cutAll_induct cfg (fun buf res => match res with
    | .more fs r => fs.flatten ++ r = buf
    | .closed fs _ => fs.flatten <+: buf) ?_ ?_ ?_ buf
  · intro buf e _
    rcases wait_cases cfg buf e with h | h <;> rw [h]
    · exact List.nil_prefix
    · exact List.nil_append buf
  · intro buf w _; exact List.nil_prefix
  · intro buf l r _ h
    cases r with
    | more fs r => simp only [Res.prepend] at h ⊢; simp [h]
    | closed fs w =>
      obtain ⟨t, ht⟩ := h
      exact ⟨t, by simp [ht]⟩

theorem cut_frames_ok (cfg : Cfg) (fuel : Nat) (buf : Bytes) : ∀ f ∈ (cut cfg fuel buf).frames,
      cfg.minLen ≤ f.length ∧ lenField f = f.length ∧ serveCheck cfg f = none ∧
      (cfg.max > 0 → f.length ≤ cfg.max) := by
  refine cut_induct cfg (fun _ r => ∀ f ∈ r.frames, cfg.minLen ≤ f.length ∧ lenField f = f.length ∧
    serveCheck cfg f = none ∧ (cfg.max > 0 → f.length ≤ cfg.max)) ?_ ?_ ?_ fuel buf
    (fun _ b f hf => by cases hf)
  · intro buf e _ f hf
    rcases wait_cases cfg buf e with h | h <;> rw [h] at hf <;> cases hf
  · intro buf w _ f hf; cases hf
  · intro buf l r ht ih f hf
    obtain ⟨hl, h7, hle, hmin, hmax, hs⟩ := turn_frame ht
    rw [Res.frames_prepend] at hf
    rcases List.mem_cons.mp hf with rfl | hf
    · have hlen : (buf.take l).length = l := List.length_take_of_le hle
      rw [hlen, lenField_take _ _ (by omega) hle]
      exact ⟨hmin, hl.symm, hs, hmax⟩
    · exact ih f hf

theorem cut_frames_len7 (cfg : Cfg) (fuel : Nat) (buf : Bytes) :
    ∀ f ∈ (cut cfg fuel buf).frames, 7 ≤ f.length := fun f hf =>
  serveCheck_none_len cfg f (cut_frames_ok cfg fuel buf f hf).2.2.1

/-- with the length guard of the D12 fix (`minLen ≥ 7`) `serve()` never panics -/
theorem cutAll_no_crash (cfg : Cfg) (h : 7 ≤ cfg.minLen) (buf : Bytes) :
    ∀ fs, cutAll cfg buf ≠ .closed fs .crash := by
  refine cutAll_induct cfg (fun _ r => ∀ fs, r ≠ .closed fs .crash) ?_ ?_ ?_ buf
  · intro buf e _ fs he
    rcases wait_cases cfg buf e with h | h <;> rw [h] at he <;> cases he
  · intro buf w ht fs e
    cases e
    have := turn_crash ht; omega
  · intro buf l r _ ih fs e
    cases r with
    | more gs r => cases e
    | closed gs w => simp only [Res.prepend, Res.closed.injEq] at e; exact ih gs (by rw [e.2])

theorem stepChunk_no_crash (cfg : Cfg) (h : 7 ≤ cfg.minLen) (s : RState) (c : Bytes)
    (hs : s.closed ≠ some .crash) : (stepChunk cfg s c).1.closed ≠ some .crash := by
  fun_cases stepChunk cfg s c
  · exact hs
  · exact nofun
  · next fs w hc =>
    intro heq
    cases heq
    exact cutAll_no_crash cfg h _ fs hc

theorem readAll_no_crash_from (cfg : Cfg) (h : 7 ≤ cfg.minLen) (chunks : List Bytes) (s : RState) :
    s.closed ≠ some .crash → (readAll cfg s chunks).1.closed ≠ some .crash := by
  fun_induction readAll cfg s chunks with
  | case1 => exact id
  | case2 s c cs r rest ih => exact fun hs => ih (stepChunk_no_crash cfg h s c hs)

end ErgoVerif.Stream
