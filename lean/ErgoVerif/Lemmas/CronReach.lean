/-
Where scheduler, parser and matcher meet. Reachable scheduler states (histories of API calls and timer ticks from
createCron) satisfy the scheduler's invariant — AddJob stores only what the parser accepts, so every present job has a
valid spec (`parseSpec_valid`) — and on a valid spec the mask matcher is the denotation (`specIsRunAt_eq_denote`).
-/
import ErgoVerif.Lemmas.CronSched
import ErgoVerif.Lemmas.CronSpec
import ErgoVerif.Lemmas.CronGrammar
namespace ErgoVerif.CronSched
open ErgoVerif.Cron

variable (civil : CivilFn)

/-- states reachable from createCron by AddJob / RemoveJob / EnableJob / DisableJob calls and runs of the timer
    function at arbitrary wall-clock minutes — as one step, or as its two halves with calls in between.
    The flag says whether the spool is armed: c.schedule has run since the spool was last drained. -/
inductive Reach : Sched → Bool → Prop
  | init (next : Int) : Reach (init next) true
  | call (s : Sched) (a : Bool) (op : Op) : Reach s a → op.isCall = true → Reach (step civil s op).1 a
  | tick (s : Sched) (a : Bool) (now : Int) : Reach s a → Reach (step civil s (.tick now)).1 true
  | tickDrain (s : Sched) (a : Bool) (now : Int) : Reach s a → Reach (step civil s (.tickDrain now)).1 false
  | tickSched (s : Sched) (a : Bool) (now : Int) : Reach s a → Reach (step civil s (.tickSched now)).1 true

theorem reach_inv {s : Sched} {a : Bool} (h : Reach civil s a) : Inv civil s ∧ (a = true → Armed civil s) := by
  induction h with
  | init next => exact ⟨inv_init civil next, fun _ p hp => by simp [init] at hp⟩
  | call s a op _ hop ih =>
    obtain ⟨h1, h2⟩ := inv_api civil (fun _ _ => parseSpec_valid) s ih.1 op hop
    exact ⟨h1, fun ha => h2 (ih.2 ha)⟩
  | tick s a now _ ih =>
    obtain ⟨h1, h2⟩ := inv_schedule civil _ (inv_drain civil s ih.1) (now + 1)
    exact ⟨h1, fun _ => h2⟩
  | tickDrain s a now _ ih => exact ⟨inv_drain civil s ih.1, fun h => by cases h⟩
  | tickSched s a now _ ih =>
    obtain ⟨h1, h2⟩ := inv_schedule civil s ih.1 (now + 1)
    exact ⟨h1, fun _ => h2⟩

theorem runsAt_eq_denote {s : Sched} (h : Inv civil s) (hciv : ∀ loc m, (civil loc m).wf) (p : Nat)
    (hp : p ∈ s.jobs) (m : Int) : runsAt civil (s.objs p) m = (s.objs p).spec.denote (civil (s.objs p).loc m) :=
  specIsRunAt_eq_denote _ (h.specs_valid p hp) _ (hciv _ _)

end ErgoVerif.CronSched
