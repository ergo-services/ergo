import ErgoVerif.Model.SupOFO
import ErgoVerif.Model.SupARFO
import ErgoVerif.Model.SupSOFO
import ErgoVerif.Spec.Sup
/-
Step-level facts about the three supervisor state machines, for ALL states (no reachability):
the answer of `childTerminated` for a child of an enabled spec in normal operation is the one the
documented rule `Spec.Sup.rule` prescribes.

The argument is the same for the three machines. The `switch` on the restart strategy in `childTerminated`
is `needsRestart` (`childTerminated_found`), which is also the first question `rule` asks (`rule_restart`,
`rule_quiet`); after that each branch function of the machine answers one line of the rule (`*_meets`).

For the invariants of the closed systems: what the branches of one-for-one leave alone (`OFO.Frame`), and the three
kinds of answer of all/rest-for-one — quiet, the stopping step, the restart step (`ARFO.childTerminated_cases`).
-/
namespace ErgoVerif.Sup
open ErgoVerif.Spec.Sup

theorem rule_restart {st : Strategy} {r : Reason} (h : needsRestart st r = true)
    (simple sg au : Bool) (n : Nat) (ex : Bool) :
    rule simple st r sg au n ex = if ex then .giveUp else .restart := by
  simp [rule, h]

theorem rule_quiet {st : Strategy} {r : Reason} (h : needsRestart st r = false)
    (sg au : Bool) (n : Nat) (ex : Bool) :
    rule false st r sg au n ex = if sg then .stopAll r else if n = 0 ∧ au then .stopAll r else .ignore := by
  simp [rule, h]

/-- what supOFO's answer must look like for each decision of the rules -/
def OFO.Meets (d : Decision) (c : ChildSpec) (sc : Scan) (s' : OFO) (res : Res) : Prop :=
  match d with
  | .ignore => res = .ok {} ∧ s'.shutdown = false
  | .restart => res = .ok { act := .start, spec := c } ∧ s'.shutdown = false
  | .giveUp =>
      res = .ok { act := .terminateChildren, terminate := runningPids sc.spec, reason := some .restartsExceeded }
      ∧ s'.shutdown = true ∧ s'.shutdownReason = some .restartsExceeded ∧ s'.wait = mkSet sc.running
  | .stopAll r =>
      if sc.running.length = 0 then res = .ok { act := .terminate, reason := some r } ∧ s'.shutdown = false
      else res = .ok { act := .terminateChildren, terminate := sc.running, reason := some r }
           ∧ s'.shutdown = true ∧ s'.shutdownReason = some r ∧ s'.wait = mkSet sc.running

namespace OFO

theorem childTerminated_shut (s : OFO) (name pid : Nat) (r : Reason) (now : Int) (h : s.shutdown = true) :
    s.childTerminated name pid r now =
      ({ s with wait := sdel pid s.wait },
       .ok (if (sdel pid s.wait).length > 0 then { act := .terminateChildren }
            else { act := .terminate, reason := s.shutdownReason })) := by
  fun_cases childTerminated s name pid r now
  case case1 hw => rw [if_pos hw]
  case case2 hw => rw [if_neg hw]
  all_goals exact absurd h ‹_›

theorem childTerminated_found (s : OFO) (name pid : Nat) (r : Reason) (now : Int)
    (hsd : s.shutdown = false) {k : Nat} {c : ChildSpec}
    (hf : (scan name pid 0 s.spec).found = some (k, c)) :
    s.childTerminated name pid r now =
      let sc := scan name pid 0 s.spec
      let s1 := { s with wait := sdel pid s.wait, spec := sc.spec }
      if c.disabled then autoShutdown s1 sc r
      else if needsRestart s.restart.strategy r then intensityStep s1 sc c now
      else quietStep s1 sc c r := by
  unfold childTerminated
  simp only [hsd, hf, Bool.false_eq_true, if_false]
  cases s.restart.strategy
  · cases h : r.quiet <;> simp only [needsRestart, h] <;> rfl
  · rfl
  · rfl

theorem childTerminated_stranger (s : OFO) (name pid : Nat) (r : Reason) (now : Int) (h : s.shutdown = false)
    (hf : (scan name pid 0 s.spec).found = none) :
    s.childTerminated name pid r now =
      stopAll { s with wait := sdel pid s.wait, spec := (scan name pid 0 s.spec).spec } (scan name pid 0 s.spec) r := by
  unfold childTerminated
  simp only [h, hf, Bool.false_eq_true, if_false]

section
variable (s : OFO) (sc : Scan) (c : ChildSpec) (r : Reason) (hsd : s.shutdown = false)
include hsd

theorem stopAll_meets : Meets (.stopAll r) c sc (stopAll s sc r).1 (stopAll s sc r).2 := by
  fun_cases stopAll s sc r
  case case1 h => exact (if_pos h).mpr ⟨rfl, hsd⟩
  case case2 h => exact (if_neg h).mpr ⟨rfl, rfl, rfl, rfl⟩

theorem autoShutdown_meets :
    Meets (if sc.running.length = 0 ∧ s.autoshutdown then .stopAll r else .ignore) c sc
      (autoShutdown s sc r).1 (autoShutdown s sc r).2 := by
  fun_cases autoShutdown s sc r
  case case1 h => rw [if_pos h]; exact (if_pos h.1).mpr ⟨rfl, hsd⟩
  case case2 h => rw [if_neg h]; exact ⟨rfl, hsd⟩

theorem quietStep_meets :
    Meets (if c.significant then .stopAll r
           else if sc.running.length = 0 ∧ s.autoshutdown then .stopAll r else .ignore)
      c sc (quietStep s sc c r).1 (quietStep s sc c r).2 := by
  unfold quietStep
  cases c.significant
  · exact autoShutdown_meets s sc c r hsd
  · exact stopAll_meets s sc c r hsd

/-- `hsp`: the machine lists the pids of its own slice, the rule those of the scanned one -/
theorem intensityStep_meets (now : Int) (hsp : s.spec = sc.spec) :
    Meets (if (Window.check s.restarts now s.restart.periodMs s.restart.intensity).2 then .giveUp else .restart)
      c sc (intensityStep s sc c now).1 (intensityStep s sc c now).2 := by
  fun_cases intensityStep s sc c now
  case case1 h => rw [h]; exact ⟨rfl, hsd⟩
  case case2 h => rw [eq_true_of_ne_false h]; exact ⟨by rw [← hsp], rfl, rfl, rfl⟩

end

/-- what the branches of `childTerminated` leave alone; only a restart answers with a `start`, for the spec `c`, and
only a branch that sets `shutdown` asks to stop the children -/
def Frame (s : OFO) (c : Option ChildSpec) (r : OFO × Res) : Prop :=
  r.1.mode = s.mode ∧ r.1.i = s.i ∧ r.1.spec = s.spec ∧
    ∃ a, r.2 = .ok a ∧ (a.act = .start → some a.spec = c) ∧ (a.act = .terminateChildren → r.1.shutdown = true)

theorem stopAll_frame (s : OFO) (sc : Scan) (c : Option ChildSpec) (r : Reason) : Frame s c (stopAll s sc r) := by
  fun_cases stopAll s sc r
  · exact ⟨rfl, rfl, rfl, _, rfl, nofun, nofun⟩
  · exact ⟨rfl, rfl, rfl, _, rfl, nofun, fun _ => rfl⟩

theorem autoShutdown_frame (s : OFO) (sc : Scan) (c : Option ChildSpec) (r : Reason) :
    Frame s c (autoShutdown s sc r) := by
  fun_cases autoShutdown s sc r <;> exact ⟨rfl, rfl, rfl, _, rfl, nofun, nofun⟩

theorem quietStep_frame (s : OFO) (sc : Scan) (sp : ChildSpec) (c : Option ChildSpec) (r : Reason) :
    Frame s c (quietStep s sc sp r) := by
  fun_cases quietStep s sc sp r
  · exact stopAll_frame ..
  · exact autoShutdown_frame ..

theorem intensityStep_frame (s : OFO) (sc : Scan) (c : ChildSpec) (now : Int) :
    Frame s (some c) (intensityStep s sc c now) := by
  fun_cases intensityStep s sc c now
  · exact ⟨rfl, rfl, rfl, _, rfl, fun _ => rfl, nofun⟩
  · exact ⟨rfl, rfl, rfl, _, rfl, nofun, fun _ => rfl⟩

theorem childTerminated_frame (s : OFO) (name pid : Nat) (r : Reason) (now : Int) (hsd : s.shutdown = false) :
    Frame { s with wait := sdel pid s.wait, spec := (scan name pid 0 s.spec).spec }
      ((scan name pid 0 s.spec).found.map (·.2)) (s.childTerminated name pid r now) := by
  -- the branches in the order of the text: shutting down (1, 2), no spec hit (3), spec disabled (4), then the rows of the
  -- strategy: quiet (5, 6) and restarting (7, 8)
  fun_cases childTerminated s name pid r now
  case case1 hx _ | case2 hx _ => exact Bool.noConfusion (hsd.symm.trans hx)
  case case3 => exact stopAll_frame ..
  case case4 => exact autoShutdown_frame ..
  case case5 | case6 => exact quietStep_frame ..
  case case7 hf _ _ _ | case8 hf _ _ => rw [show (scan name pid 0 s.spec).found = _ from hf]; exact intensityStep_frame ..

end OFO

theorem OFO.decision (s : OFO) (name pid : Nat) (r : Reason) (now : Int)
    (hsd : s.shutdown = false) (k : Nat) (c : ChildSpec)
    (hf : (scan name pid 0 s.spec).found = some (k, c)) (hen : c.disabled = false) :
    OFO.Meets (rule false s.restart.strategy r c.significant s.autoshutdown
                (scan name pid 0 s.spec).running.length
                (Window.check s.restarts now s.restart.periodMs s.restart.intensity).2)
      c (scan name pid 0 s.spec) (s.childTerminated name pid r now).1 (s.childTerminated name pid r now).2 := by
  let s1 : OFO := { s with wait := sdel pid s.wait, spec := (scan name pid 0 s.spec).spec }
  rw [OFO.childTerminated_found s name pid r now hsd hf]
  cases hn : needsRestart s.restart.strategy r
  · simp only [rule_quiet hn, hen, Bool.false_eq_true, if_false]
    exact OFO.quietStep_meets s1 _ c r hsd
  · simp only [rule_restart hn, hen, Bool.false_eq_true, if_false, if_true]
    exact OFO.intensityStep_meets s1 _ c hsd now rfl

/-- in normal operation the answer to the exit of a child of the slice meets some decision: the one of the rule for an
enabled spec (`OFO.decision`), `autoShutdown`'s for a disabled one -/
theorem OFO.found_meets (m : OFO) (n pid : Nat) (r : Reason) (now : Int) (hsd : m.shutdown = false) {j : Nat}
    {sp : ChildSpec} (hf : (scan n pid 0 m.spec).found = some (j, sp)) :
    ∃ d, OFO.Meets d sp (scan n pid 0 m.spec) (m.childTerminated n pid r now).1 (m.childTerminated n pid r now).2 := by
  cases hdis : sp.disabled with
  | false => exact ⟨_, OFO.decision m n pid r now hsd j sp hf hdis⟩
  | true =>
    rw [OFO.childTerminated_found m n pid r now hsd hf]
    simp only [hdis, if_true]
    exact ⟨_, OFO.autoShutdown_meets { m with wait := sdel pid m.wait, spec := (scan n pid 0 m.spec).spec } _ sp r hsd⟩

/-- in every case the spec slice after the call is the scanned one: only the dead child's pid is cleared (T2) -/
theorem OFO.spec_after (s : OFO) (name pid : Nat) (r : Reason) (now : Int) (hsd : s.shutdown = false) :
    (s.childTerminated name pid r now).1.spec = (scan name pid 0 s.spec).spec :=
  (OFO.childTerminated_frame s name pid r now hsd).2.2.1

/-- as `OFO.Meets`; the `.restart` row is the implementation itself (`restartStep`): what it does is said by
`C08_stop_list` and `C08_restart_position` -/
def ARFO.Meets (d : Decision) (k : Nat) (r : Reason) (sc : Scan) (s0 s' : ARFO) (res : Res) : Prop :=
  match d with
  | .ignore => res = .ok {} ∧ s'.mode = 0
  | .restart => (s', res) = ARFO.restartStep s0 k r
  | .giveUp =>
      res = .ok { act := .terminateChildren, terminate := sc.running, reason := some .restartsExceeded }
      ∧ s'.mode = 3 ∧ s'.shutdownReason = some .restartsExceeded ∧ s'.wait = mkSet sc.running
  | .stopAll r =>
      if sc.running.length = 0 then res = .ok { act := .terminate, reason := some r } ∧ s'.mode = 0
      else res = .ok { act := .terminateChildren, terminate := sc.running, reason := some r }
           ∧ s'.mode = 3 ∧ s'.shutdownReason = some r ∧ s'.wait = mkSet sc.running

namespace ARFO

theorem childTerminated_shut (s : ARFO) (name pid : Nat) (r : Reason) (now : Int) (h : s.mode = 3) :
    s.childTerminated name pid r now =
      ({ s with wait := sdel pid s.wait },
       .ok (if (sdel pid s.wait).length > 0 then { act := .terminateChildren }
            else { act := .terminate, reason := s.shutdownReason })) := by
  fun_cases childTerminated s name pid r now
  case case1 hw => rw [if_pos hw]
  case case2 hw => rw [if_neg hw]
  all_goals exact absurd h ‹_›

theorem childTerminated_stranger (s : ARFO) (name pid : Nat) (r : Reason) (now : Int) (h : s.mode ≠ 3)
    (hf : (scan name pid 0 s.spec).found = none) :
    s.childTerminated name pid r now =
      stopAll { s with wait := sdel pid s.wait, spec := (scan name pid 0 s.spec).spec } (scan name pid 0 s.spec) r := by
  unfold childTerminated
  simp only [h, hf, if_false]

theorem childTerminated_run (s : ARFO) (name pid : Nat) (r : Reason) (now : Int) (h : s.mode ≠ 3)
    {k : Nat} {c : ChildSpec} (hf : (scan name pid 0 s.spec).found = some (k, c)) :
    s.childTerminated name pid r now =
      let sc := scan name pid 0 s.spec
      let s1 := { s with wait := sdel pid s.wait, spec := sc.spec }
      if s.mode = 2 then stoppingStep s1 k r
      else if c.disabled then autoShutdown s1 sc r
      else if needsRestart s.restart.strategy r then intensityStep s1 sc k r now
      else quietStep s1 sc c r := by
  rw [childTerminated, if_neg h]
  simp only [hf]
  cases s.restart.strategy
  · cases hq : r.quiet <;> simp only [needsRestart, hq] <;> rfl
  · rfl
  · rfl

theorem childTerminated_found (s : ARFO) (name pid : Nat) (r : Reason) (now : Int)
    (hm : s.mode = 0) {k : Nat} {c : ChildSpec}
    (hf : (scan name pid 0 s.spec).found = some (k, c)) :
    s.childTerminated name pid r now =
      let sc := scan name pid 0 s.spec
      let s1 := { s with wait := sdel pid s.wait, spec := sc.spec }
      if c.disabled then autoShutdown s1 sc r
      else if needsRestart s.restart.strategy r then intensityStep s1 sc k r now
      else quietStep s1 sc c r := by
  rw [childTerminated_run s name pid r now (by rw [hm]; decide) hf]
  simp only [hm, Nat.reduceEqDiff, if_false]

-- `k`, `r0`, `s0` (what a restart is measured against) play no part in the branches that do not restart
variable (s : ARFO) (sc : Scan) (k : Nat) (r0 : Reason) (s0 : ARFO) (c : ChildSpec) (r : Reason)

theorem stopAll_meets (hm : s.mode = 0) :
    Meets (.stopAll r) k r0 sc s0 (stopAll s sc r).1 (stopAll s sc r).2 := by
  fun_cases stopAll s sc r
  case case1 h => exact (if_pos h).mpr ⟨rfl, hm⟩
  case case2 h => exact (if_neg h).mpr ⟨rfl, rfl, rfl, rfl⟩

theorem autoShutdown_meets (hm : s.mode = 0) :
    Meets (if sc.running.length = 0 ∧ s.autoshutdown then .stopAll r else .ignore) k r0 sc s0
      (autoShutdown s sc r).1 (autoShutdown s sc r).2 := by
  fun_cases autoShutdown s sc r
  case case1 h => rw [if_pos h]; exact (if_pos h.1).mpr ⟨rfl, hm⟩
  case case2 h => rw [if_neg h]; exact ⟨rfl, hm⟩

theorem quietStep_meets (hm : s.mode = 0) :
    Meets (if c.significant then .stopAll r
           else if sc.running.length = 0 ∧ s.autoshutdown then .stopAll r else .ignore)
      k r0 sc s0 (quietStep s sc c r).1 (quietStep s sc c r).2 := by
  unfold quietStep
  cases c.significant
  · exact autoShutdown_meets s sc k r0 s0 r hm
  · exact stopAll_meets s sc k r0 s0 r hm

theorem intensityStep_meets (now : Int) :
    Meets (if (Window.check s.restarts now s.restart.periodMs s.restart.intensity).2 then .giveUp else .restart)
      k r sc { s with restarts := (Window.check s.restarts now s.restart.periodMs s.restart.intensity).1 }
      (intensityStep s sc k r now).1 (intensityStep s sc k r now).2 := by
  simp only [intensityStep]
  cases (Window.check s.restarts now s.restart.periodMs s.restart.intensity).2
  · exact rfl
  · exact ⟨rfl, rfl, rfl, rfl⟩

/-- an answer that starts nothing; the machine is left as it is, or begins to shut down (mode 3, with a wait set and a
reason; the restart history may have been updated) -/
def Quiet (s : ARFO) (r : ARFO × Res) : Prop :=
  (r.1 = s ∨ ∃ w sr rs, r.1 = { s with wait := w, mode := 3, shutdownReason := sr, restarts := rs }) ∧
    ∃ a, r.2 = .ok a ∧ a.act ≠ .start

theorem stopAll_quiet : Quiet s (stopAll s sc r) := by
  fun_cases stopAll s sc r
  · exact ⟨.inl rfl, _, rfl, nofun⟩
  · exact ⟨.inr ⟨_, _, _, rfl⟩, _, rfl, nofun⟩

theorem autoShutdown_quiet : Quiet s (autoShutdown s sc r) := by
  fun_cases autoShutdown s sc r <;> exact ⟨.inl rfl, _, rfl, nofun⟩

theorem quietStep_quiet : Quiet s (quietStep s sc c r) := by
  fun_cases quietStep s sc c r
  · exact stopAll_quiet ..
  · exact autoShutdown_quiet ..

/-- unless it is shutting down, `childTerminated` answers quietly from the scanned state, or it is the stopping step, or,
for an enabled spec outside the stopping mode, the restart step on the updated restart history -/
theorem childTerminated_cases (name pid : Nat) (r : Reason) (now : Int) (hm3 : s.mode ≠ 3) :
    let sc := scan name pid 0 s.spec
    let s1 : ARFO := { s with wait := sdel pid s.wait, spec := sc.spec }
    Quiet s1 (s.childTerminated name pid r now) ∨
    ∃ k c, sc.found = some (k, c) ∧
      (s.mode = 2 ∧ s.childTerminated name pid r now = stoppingStep s1 k r ∨
       s.mode ≠ 2 ∧ c.disabled = false ∧ s.childTerminated name pid r now = restartStep
         { s1 with restarts := (Window.check s.restarts now s.restart.periodMs s.restart.intensity).1 } k r) := by
  -- shutting down (1, 2), no spec hit (3), stopping mode (4), spec disabled (5), quiet (6, 7), restarting (8, 9)
  fun_cases childTerminated s name pid r now
  case case1 h _ | case2 h _ => exact absurd h hm3
  case case3 => exact .inl (stopAll_quiet ..)
  case case4 k c hf hm2 => exact .inr ⟨k, c, hf, .inl ⟨hm2, rfl⟩⟩
  case case5 => exact .inl (autoShutdown_quiet ..)
  case case6 | case7 => exact .inl (quietStep_quiet ..)
  case case8 k c hf hm2 hdis _ _ | case9 k c hf hm2 hdis _ =>
    -- restarts exceeded (1), restart (2)
    fun_cases intensityStep _ _ k r now
    · exact .inl ⟨.inr ⟨_, _, _, rfl⟩, _, rfl, nofun⟩
    · exact .inr ⟨k, c, hf, .inr ⟨hm2, by simpa using hdis, rfl⟩⟩

end ARFO

theorem ARFO.decision (s : ARFO) (name pid : Nat) (r : Reason) (now : Int)
    (hm : s.mode = 0) (k : Nat) (c : ChildSpec)
    (hf : (scan name pid 0 s.spec).found = some (k, c)) (hen : c.disabled = false) :
    ARFO.Meets (rule false s.restart.strategy r c.significant s.autoshutdown
                (scan name pid 0 s.spec).running.length
                (Window.check s.restarts now s.restart.periodMs s.restart.intensity).2)
      k r (scan name pid 0 s.spec)
      { s with wait := sdel pid s.wait, spec := (scan name pid 0 s.spec).spec,
               restarts := (Window.check s.restarts now s.restart.periodMs s.restart.intensity).1 }
      (s.childTerminated name pid r now).1 (s.childTerminated name pid r now).2 := by
  let s1 : ARFO := { s with wait := sdel pid s.wait, spec := (scan name pid 0 s.spec).spec }
  rw [ARFO.childTerminated_found s name pid r now hm hf]
  cases hn : needsRestart s.restart.strategy r
  · simp only [rule_quiet hn, hen, Bool.false_eq_true, if_false]
    exact ARFO.quietStep_meets s1 _ k r _ c r hm
  · simp only [rule_restart hn, hen, Bool.false_eq_true, if_false, if_true]
    exact ARFO.intensityStep_meets s1 _ k r now

/-- as `OFO.Meets`, for the table `pids` instead of the slice -/
def SOFO.Meets (d : Decision) (c : ChildSpec) (s0 s' : SOFO) (res : Res) : Prop :=
  match d with
  | .ignore => res = .ok {} ∧ s'.shutdown = false
  | .restart => res = .ok { act := .start, spec := c } ∧ s'.shutdown = false
  | .giveUp =>
      res = .ok { act := .terminateChildren, terminate := s0.pids.map (·.1), reason := some .restartsExceeded }
      ∧ s'.shutdown = true ∧ s'.shutdownReason = some .restartsExceeded
      ∧ s'.wait = (s0.pids.map (·.1)).foldl (fun w p => sins p w) s0.wait
  | .stopAll _ => False      -- never prescribed for simple-one-for-one

theorem SOFO.childTerminated_shut (s : SOFO) (name pid : Nat) (r : Reason) (now : Int) (h : s.shutdown = true) :
    s.childTerminated name pid r now =
      ({ s with pids := s.pids.filter (·.1 ≠ pid), wait := sdel pid s.wait },
       .ok (if (sdel pid s.wait).length > 0 then { act := .terminateChildren }
            else { act := .terminate, reason := s.shutdownReason })) := by
  fun_cases SOFO.childTerminated s name pid r now
  case case1 hw => rw [if_pos hw]
  case case2 hw => rw [if_neg hw]
  all_goals exact absurd h ‹_›

/-- the `shut` closure of supSOFO.childTerminated: every child of the table is told to stop and waited for -/
def SOFO.stopAll (s : SOFO) (r : Reason) : SOFO × Res :=
  ({ s with wait := (s.pids.map (·.1)).foldl (fun w p => sins p w) s.wait, shutdown := true, shutdownReason := some r },
   .ok { act := .terminateChildren, terminate := s.pids.map (·.1), reason := some r })

theorem SOFO.childTerminated_stranger (s : SOFO) (name pid : Nat) (r : Reason) (now : Int) (h : s.shutdown = false)
    (hf : findName name s.spec = none) :
    s.childTerminated name pid r now =
      SOFO.stopAll { s with pids := s.pids.filter (·.1 ≠ pid), wait := sdel pid s.wait } r := by
  unfold SOFO.childTerminated
  simp only [h, hf, Bool.false_eq_true, if_false]
  rfl

theorem SOFO.childTerminated_found (s : SOFO) (name pid : Nat) (r : Reason) (now : Int)
    (hsd : s.shutdown = false) {c : ChildSpec} (hf : findName name s.spec = some c) :
    s.childTerminated name pid r now =
      let s1 := { s with pids := s.pids.filter (·.1 ≠ pid), wait := sdel pid s.wait }
      let chk := Window.check s.restarts now s.restart.periodMs s.restart.intensity
      if needsRestart s.restart.strategy r = false ∨ c.disabled = true then (s1, .ok {})
      else if chk.2 = false then ({ s1 with restarts := chk.1 }, .ok { act := .start, spec := c })
      else SOFO.stopAll { s1 with restarts := chk.1 } .restartsExceeded := by
  unfold SOFO.childTerminated SOFO.stopAll
  simp only [hsd, hf, Bool.false_eq_true, if_false]
  cases s.restart.strategy
  · cases h : r.quiet <;> simp [needsRestart, h]
  · simp [needsRestart]
  · simp [needsRestart]

theorem SOFO.decision (s : SOFO) (name pid : Nat) (r : Reason) (now : Int)
    (hsd : s.shutdown = false) (c : ChildSpec)
    (hf : findName name s.spec = some c) (hen : c.disabled = false) :
    SOFO.Meets (rule true s.restart.strategy r c.significant false 0
                (Window.check s.restarts now s.restart.periodMs s.restart.intensity).2)
      c { s with pids := s.pids.filter (·.1 ≠ pid), wait := sdel pid s.wait }
      (s.childTerminated name pid r now).1 (s.childTerminated name pid r now).2 := by
  rw [SOFO.childTerminated_found s name pid r now hsd hf]
  cases hn : needsRestart s.restart.strategy r
  · simp [rule, hn, SOFO.Meets, hsd]
  · rw [rule_restart hn]
    cases hc : (Window.check s.restarts now s.restart.periodMs s.restart.intensity).2 <;>
      simp [hc, hen, SOFO.Meets, SOFO.stopAll, hsd]

end ErgoVerif.Sup
