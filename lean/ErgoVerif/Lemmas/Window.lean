import ErgoVerif.Model.Window
/-
The window rule of `supCheckRestartIntensity`: the lazily pruned list gives the verdicts of the full history.
-/
namespace ErgoVerif.Window

theorem sorted_iff (l : List Int) : Sorted l ↔ l.Pairwise (· ≤ ·) := by
  induction l with
  | nil => simp [Sorted]
  | cons a r ih =>
    cases r with
    | nil => simp [Sorted]
    | cons b r' =>
      rw [Sorted, ih, List.pairwise_cons (a := a), List.pairwise_cons]
      constructor
      · rintro ⟨hab, hb, hr⟩
        refine ⟨fun x hx => ?_, hb, hr⟩
        rcases List.mem_cons.mp hx with rfl | hx
        · exact hab
        · exact Int.le_trans hab (hb x hx)
      · rintro ⟨ha, h⟩
        exact ⟨ha b (List.mem_cons_self ..), h⟩

theorem sorted_append {a b : List Int} : Sorted (a ++ b) ↔ Sorted a ∧ Sorted b ∧ ∀ x ∈ a, ∀ y ∈ b, x ≤ y := by
  simp only [sorted_iff, List.pairwise_append]

theorem dropWhile_eq_filter_of_sorted (l : List Int) (now period : Int) (hs : Sorted l) :
    l.dropWhile (fun t => decide (now - t > period)) = l.filter (fun t => decide (now - t ≤ period)) := by
  rw [sorted_iff] at hs
  induction l with
  | nil => rfl
  | cons a r ih =>
    rw [List.pairwise_cons] at hs
    by_cases h : now - a > period
    · have : ¬ (now - a ≤ period) := by omega
      simp only [List.dropWhile_cons, List.filter_cons, h, this, decide_true, decide_false, if_true]
      exact ih hs.2
    · -- `a` is in the window, and so is everything after it
      rw [List.dropWhile_cons, if_neg (by simpa using h), eq_comm, List.filter_eq_self]
      intro x hx
      rcases List.mem_cons.mp hx with rfl | hx
      · simpa using h
      · have := hs.1 x hx
        simp only [decide_eq_true_eq]; omega

theorem dropWhile_eq_filter (l : List Int) (now period : Int) (hs : Sorted l) (hn : ∀ x ∈ l, x ≤ now) :
    l.dropWhile (fun t => decide (now - t > period)) = l.filter (fun t => decide (now - t ≤ period)) :=
  dropWhile_eq_filter_of_sorted l now period hs

/-- single step: on a sorted retained list bounded by `now`, the verdict is the window count of the retained list -/
theorem check_spec (st : List Int) (now period : Int) (intensity : Nat)
    (hs : Sorted (st ++ [now])) (hn : ∀ x ∈ st, x ≤ now) :
    (check st now period intensity).2 = decide (inWindow (st ++ [now]) now period > intensity) := by
  fun_cases check st now period intensity
  case case1 hle =>
    -- the early return: too few entries in all, hence in the window
    have hle : (st ++ [now]).length ≤ intensity := hle
    have := List.length_filter_le (fun t => decide (now - t ≤ period)) (st ++ [now])
    exact (decide_eq_false (by unfold inWindow; omega)).symm
  case case2 => exact congrArg (fun l => decide (l.length > intensity)) (dropWhile_eq_filter_of_sorted _ now period hs)

theorem check_suffix (st : List Int) (t period : Int) (k : Nat) :
    ∃ dr, st ++ [t] = dr ++ (check st t period k).1 ∧ ∀ d ∈ dr, t - d > period := by
  fun_cases check st t period k
  · exact ⟨[], rfl, by simp⟩
  · exact ⟨_, List.takeWhile_append_dropWhile.symm, fun d hd => by
      simpa using List.all_eq_true.mp List.all_takeWhile d hd⟩

theorem inWindow_append (a b : List Int) (now p : Int) :
    inWindow (a ++ b) now p = inWindow a now p + inWindow b now p := by
  simp [inWindow]

theorem inWindow_zero_of_old (dr : List Int) (now p : Int) (h : ∀ d ∈ dr, now - d > p) :
    inWindow dr now p = 0 := by
  unfold inWindow
  rw [List.length_eq_zero_iff, List.filter_eq_nil_iff]
  intro d hd
  have := h d hd
  simp; omega

theorem inWindow_singleton (t p : Int) (hp : 0 ≤ p) : inWindow [t] t p = 1 := by
  simp [inWindow, hp]

/-- invariant linking the lazily pruned list `st` to the full history `pre`: what has been dropped (`dr`) was older than
the period already at `last`, the time of the latest failure, hence at every later one.  `st` is a suffix of `pre`, not
the window: the early return of `check` (few entries) prunes nothing -/
def Rel (period : Int) (pre st : List Int) (last : Int) : Prop :=
  ∃ dr, pre = dr ++ st ∧ (∀ d ∈ dr, last - d > period) ∧ Sorted pre ∧ (∀ x ∈ pre, x ≤ last)

theorem rel_step {period : Int} {pre st : List Int} {last t : Int} (k : Nat)
    (hr : Rel period pre st last) (ht : last ≤ t) :
    Rel period (pre ++ [t]) (check st t period k).1 t ∧
    (check st t period k).2 = decide (inWindow (pre ++ [t]) t period > k) := by
  obtain ⟨dr, rfl, hold, hsort, hbound⟩ := hr
  have hbt : ∀ x ∈ dr ++ st, x ≤ t := fun x hx => Int.le_trans (hbound x hx) ht
  have hold' : ∀ d ∈ dr, t - d > period := fun d hd => by have := hold d hd; omega
  have hsort' : Sorted (dr ++ st ++ [t]) :=
    sorted_append.mpr ⟨hsort, trivial, fun x hx y hy => List.mem_singleton.mp hy ▸ hbt x hx⟩
  constructor
  · obtain ⟨dr2, h1, h2⟩ := check_suffix st t period k
    exact ⟨dr ++ dr2, by rw [List.append_assoc, List.append_assoc, ← h1],
      fun d hd => (List.mem_append.mp hd).elim (hold' d) (h2 d), hsort',
      fun x hx => (List.mem_append.mp hx).elim (hbt x) fun h => Int.le_of_eq (List.mem_singleton.mp h)⟩
  · rw [List.append_assoc] at hsort' ⊢
    rw [check_spec st t period k (sorted_append.mp hsort').2.1 fun x hx => hbt x (List.mem_append_right _ hx),
      inWindow_append dr, inWindow_zero_of_old dr t period hold', Nat.zero_add]

theorem runImpl_eq_runSpec {period : Int} (k : Nat) :
    ∀ (ts pre st : List Int) (last : Int), Rel period pre st last → Sorted (last :: ts) →
      (runImpl period k st ts).2 = runSpec period k pre ts := by
  intro ts
  induction ts with
  | nil => intros; rfl
  | cons t ts ih =>
    intro pre st last hr hs
    obtain ⟨hr', hv⟩ := rel_step k hr hs.1
    simp only [runImpl, runSpec]
    rw [hv, ih (pre ++ [t]) _ t hr' hs.2]

end ErgoVerif.Window
