import ErgoVerif.Lemmas.EdfDec
/-! `encB` one level deep (`encB_ok`, its equations per case), and the nesting depth of values, the measure by which
    the arguments about nested values recur. -/
namespace ErgoVerif.Edf
open ErgoVerif.Generated.Edt

mutual
def Val.depth : Val → Nat
  | .any _ v => v.depth + 1
  | .list vs => vs.depth + 1
  | .map ps => ps.depth + 1
  | _ => 1
def Vals.depth : Vals → Nat
  | .nil => 0
  | .cons v vs => max v.depth vs.depth
def Pairs.depth : Pairs → Nat
  | .nil => 0
  | .cons k v ps => max (max k.depth v.depth) ps.depth
end

theorem Val.depth_pos (v : Val) : 0 < v.depth := by cases v <;> simp [Val.depth]

theorem encLeaf_leafTag {o : Opts} {t : Ty} {v : Val} {bs : Bytes} : encLeaf o t v = some bs → ∃ tag, t.leafTag = some tag := by
  fun_cases encLeaf o t v <;> first | exact fun _ => ⟨_, rfl⟩ | nofun

/-- the guard of `edf.Encode` and `encodeAny`, as a proposition -/
theorem encGuard_iff (t : Ty) (v : Val) : (t.encodable && t != Ty.any && !(t == Ty.error && v == Val.nil)) = true ↔
    t.encodable = true ∧ t ≠ .any ∧ ¬ (t = .error ∧ v = .nil) := by
  simp only [Bool.and_eq_true, Bool.not_eq_true', bne_iff_ne, ne_eq, Bool.and_eq_false_imp, beq_iff_eq, and_assoc, not_and,
    beq_eq_false_iff_ne]

theorem encB_any (o : Opts) (t : Ty) (v : Val) : encB o .any (.any t v) = encode o t v := by
  simp only [encB, encode]

theorem encode_ok {o : Opts} {t : Ty} {v : Val} {bs : Bytes} (h : encode o t v = some bs) :
    t.encodable = true ∧ t ≠ .any ∧ ¬ (t = .error ∧ v = .nil) ∧ ∃ body, encB o t v = some body ∧ bs = hdr o t ++ body := by
  unfold encode at h
  split at h
  · obtain ⟨a, b, c⟩ := (encGuard_iff t v).1 ‹_›
    obtain ⟨body, hb, rfl⟩ := Option.map_eq_some_iff.1 h
    exact ⟨a, b, c, body, hb, rfl⟩
  · cases h

theorem encode_isSome_iff (o : Opts) (t : Ty) (v : Val) : (encode o t v).isSome = true ↔
    t.encodable = true ∧ t ≠ .any ∧ ¬ (t = .error ∧ v = .nil) ∧ (encB o t v).isSome = true := by
  rw [encode]
  split
  · obtain ⟨a, b, c⟩ := (encGuard_iff t v).1 ‹_›
    rw [Option.isSome_map]
    exact ⟨fun h => ⟨a, b, c, h⟩, fun h => h.2.2.2⟩
  · exact ⟨nofun, fun h => absurd ((encGuard_iff t v).2 ⟨h.1, h.2.1, h.2.2.1⟩) ‹_›⟩

/-- one level of a successful encode, as rules from type and value to the bytes -/
inductive EncStep (o : Opts) : Ty → Val → Bytes → Prop
  | errNil : EncStep o .error .nil [0xff, 0xff]
  | anyNil : EncStep o .any .nil [edtNil]
  | anyVal (t' : Ty) {v' : Val} {body : Bytes} : t'.encodable = true → t' ≠ .any → ¬ (t' = .error ∧ v' = .nil) →
      encB o t' v' = some body → EncStep o .any (.any t' v') (hdr o t' ++ body)
  | nilSeq {t e : Ty} {tag : UInt8} : t.IsSeq tag e → EncStep o t .nil [edtNil]
  | nilMap {t kt vt : Ty} {tag : UInt8} : t.IsMap tag kt vt → EncStep o t .nil [edtNil]
  | seq {t : Ty} {tag : UInt8} (e : Ty) (vs : Vals) (body : Bytes) : t.IsSeq tag e → encs o e vs = some body →
      EncStep o t (.list vs) (tag :: be32 vs.length ++ body)
  | arr {t : Ty} (e : Ty) (vs : Vals) {bs : Bytes} : t.IsArr vs.length e → encs o e vs = some bs → EncStep o t (.list vs) bs
  | map {t : Ty} {tag : UInt8} (kt vt : Ty) (ps : Pairs) (body : Bytes) : t.IsMap tag kt vt → encp o kt vt ps = some body →
      EncStep o t (.map ps) (tag :: be32 ps.length ++ body)
  | struct {nm : Bytes} {fs : Tys} {vs : Vals} {bs : Bytes} : encf o fs vs = some bs → EncStep o (.struct nm fs) (.list vs) bs
  | marsh {nm : Bytes} {sz : Nat} (p : Bytes) : p.length ≤ limBinaryEnc - 1 →
      EncStep o (.marsh nm sz) (.opaque p) (be32 p.length ++ p)
  | leaf {t t' : Ty} {c : Bool} {tag : UInt8} {v : Val} {bs : Bytes} : t.IsLeaf c tag t' → encLeaf o t' v = some bs →
      EncStep o t v bs

theorem encB_ok {o : Opts} {t : Ty} {v : Val} {bs : Bytes} : encB o t v = some bs → EncStep o t v bs := by
  -- the clauses of `encB` in the model's order, their `if`s already split
  fun_cases encB o t v <;> intro h <;> try cases h
  · exact .errNil
  · exact .anyNil
  · obtain ⟨a, b, c⟩ := (encGuard_iff _ _).1 ‹_›
    obtain ⟨body, hb, rfl⟩ := Option.map_eq_some_iff.1 h
    exact .anyVal _ a b c hb
  · exact .nilSeq (.slice _)
  · obtain ⟨body, hb, rfl⟩ := Option.map_eq_some_iff.1 h
    exact .seq _ _ body (.slice _) hb
  · exact .arr _ _ (.array _ _) h
  · exact .nilMap (.map _ _)
  · obtain ⟨body, hb, rfl⟩ := Option.map_eq_some_iff.1 h
    exact .map _ _ _ body (.map _ _) hb
  · exact .nilSeq (.named _ _)
  · obtain ⟨body, hb, rfl⟩ := Option.map_eq_some_iff.1 h
    exact .seq _ _ body (.named _ _) hb
  · exact .arr _ _ (.named _ _ _) h
  · exact .nilMap (.named _ _ _)
  · obtain ⟨body, hb, rfl⟩ := Option.map_eq_some_iff.1 h
    exact .map _ _ _ body (.named _ _ _) hb
  · exact .struct h
  · exact .marsh _ (by omega)
  · obtain ⟨tag, ht⟩ := encLeaf_leafTag h
    exact .leaf (.named _ ‹_› ht) h
  · obtain ⟨tag, ht⟩ := encLeaf_leafTag h
    exact .leaf (.plain ht) h

theorem encs_cons_ok {o : Opts} {t : Ty} {v : Val} {vs : Vals} {bs : Bytes} (h : encs o t (.cons v vs) = some bs) :
    ∃ a b, encB o t v = some a ∧ encs o t vs = some b ∧ bs = a ++ b := by
  simp only [encs] at h
  split at h <;> cases h
  exact ⟨_, _, ‹_›, ‹_›, rfl⟩

theorem encf_cons_ok {o : Opts} {t : Ty} {ts : Tys} {v : Val} {vs : Vals} {bs : Bytes}
    (h : encf o (.cons t ts) (.cons v vs) = some bs) :
    ∃ a b, encB o t v = some a ∧ encf o ts vs = some b ∧ bs = a ++ b := by
  simp only [encf] at h
  split at h <;> cases h
  exact ⟨_, _, ‹_›, ‹_›, rfl⟩

theorem encp_cons_ok {o : Opts} {kt vt : Ty} {k v : Val} {ps : Pairs} {bs : Bytes}
    (h : encp o kt vt (.cons k v ps) = some bs) :
    ∃ a b c, encB o kt k = some a ∧ encB o vt v = some b ∧ encp o kt vt ps = some c ∧ bs = a ++ b ++ c := by
  simp only [encp] at h
  split at h <;> cases h
  exact ⟨_, _, _, ‹_›, ‹_›, ‹_›, rfl⟩

theorem encB_seq {o : Opts} {t e : Ty} {tag : UInt8} (h : t.IsSeq tag e) (vs : Vals) :
    encB o t (.list vs) = (encs o e vs).map fun body => tag :: be32 vs.length ++ body := by
  cases h <;> simp only [encB]
theorem encB_arr {o : Opts} {t e : Ty} {n : Nat} (h : t.IsArr n e) (vs : Vals) :
    encB o t (.list vs) = if vs.length = n then encs o e vs else none := by
  cases h <;> simp only [encB]
theorem encB_map {o : Opts} {t k v : Ty} {tag : UInt8} (h : t.IsMap tag k v) (ps : Pairs) :
    encB o t (.map ps) = (encp o k v ps).map fun body => tag :: be32 ps.length ++ body := by
  cases h <;> simp only [encB]

/-- on a leaf type `encB` answers what the leaf encoder answers (and for a nil error, which the leaf encoder refuses) -/
theorem encB_of_encLeaf {o : Opts} {t t' : Ty} {c : Bool} {tag : UInt8} (h : t.IsLeaf c tag t') {v : Val} {bs : Bytes}
    (he : encLeaf o t' v = some bs) : encB o t v = some bs := by
  cases h with
  | plain h => fun_cases encB o t v <;> first | exact he | cases he | cases h
  | named nm h _ => cases t' <;> cases h <;> simpa only [encB, Ty.namedLeaf, if_true] using he

theorem encs_isSome_cons (o : Opts) (t : Ty) (v : Val) (vs : Vals) :
    (encs o t (.cons v vs)).isSome = ((encB o t v).isSome && (encs o t vs).isSome) := by
  simp only [encs]; cases encB o t v <;> cases encs o t vs <;> rfl
theorem encf_isSome_cons (o : Opts) (t : Ty) (ts : Tys) (v : Val) (vs : Vals) :
    (encf o (.cons t ts) (.cons v vs)).isSome = ((encB o t v).isSome && (encf o ts vs).isSome) := by
  simp only [encf]; cases encB o t v <;> cases encf o ts vs <;> rfl
theorem encp_isSome_cons (o : Opts) (kt vt : Ty) (k v : Val) (ps : Pairs) :
    (encp o kt vt (.cons k v ps)).isSome = ((encB o kt k).isSome && (encB o vt v).isSome && (encp o kt vt ps).isSome) := by
  simp only [encp]; cases encB o kt k <;> cases encB o vt v <;> cases encp o kt vt ps <;> rfl

end ErgoVerif.Edf
