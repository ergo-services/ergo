import ErgoVerif.Lemmas.EdfRound
/-! The public API level: `decodeRaw` around `getDecoder`, `dec` and `topNorm`. `edf.Decode ∘ edf.Encode` is
    `decodeRaw_encode`; `decodeRaw_eq` reads `decodeRaw` as `dec` at the type `any`. -/
namespace ErgoVerif.Edf

theorem topNorm_id (t : Ty) (v : Val) (h1 : t ≠ .any) (h2 : ¬ (t = .error ∧ v = .nil)) : topNorm t v = some (t, v) := by
  fun_cases topNorm t v
  · exact absurd rfl h1
  · exact absurd rfl h1
  · exact absurd ⟨rfl, rfl⟩ h2
  · rfl

theorem topNorm_cases (t0 : Ty) (v0 : Val) (t : Ty) (v : Val) : topNorm t0 v0 = some (t, v) →
    (t0 = .any ∧ v0 = .any t v) ∨ (t0 ≠ .any ∧ ¬ (t0 = .error ∧ v0 = .nil) ∧ t = t0 ∧ v = v0) := by
  fun_cases topNorm t0 v0 <;> intro h <;> cases h
  · exact .inl ⟨rfl, rfl⟩
  · exact .inr ⟨by simpa using ‹_›, fun hx => ‹∀ _ _, _› hx.1 hx.2, rfl, rfl⟩

/-- `edf.Decode` is `decodeAny` at the top: what it hands back is what `dec` puts into an interface slot, read through
    `topNorm`. This is how the facts about `dec` reach the API. -/
theorem decodeRaw_eq (o : Opts) (fuel : Nat) (bs : Bytes) : decodeRaw o fuel bs =
    match dec o (fuel + 1) true .any bs with
    | .ok (v, r) => .ok (topNorm .any v, r)
    | .err => .err
    | .panic => .panic := by
  simp only [decodeRaw, dec]
  split <;> try rfl
  rename_i t r dt _
  cases dec o fuel dt t r with
  | err => rfl
  | panic => rfl
  | ok p =>
    -- the three ways into the slot: decodeAny into the same slot, a nil error, a value with its dynamic type
    by_cases h1 : t = .any
    · subst h1; simp
    · by_cases h2 : t = .error ∧ p.1 = .nil
      · obtain ⟨rfl, h2⟩ := h2; simp [h2, topNorm]
      · simp only [h1, h2, ↓reduceIte, topNorm_id t p.1 h1 h2]; rfl

theorem decodeRaw_any {o : Opts} {fuel : Nat} {bs : Bytes} {t : Ty} {v : Val} {rest : Bytes}
    (h : decodeRaw o fuel bs = .ok (some (t, v), rest)) : dec o (fuel + 1) true .any bs = .ok (.any t v, rest) := by
  rw [decodeRaw_eq] at h
  split at h
  next v' r hd =>
    obtain ⟨hn, rfl⟩ := Prod.mk.inj (Res.ok.inj h)
    rcases topNorm_cases .any v' t v hn with ⟨-, rfl⟩ | ⟨h1, -⟩
    · exact hd
    · exact absurd rfl h1
  all_goals cases h

theorem decodeRaw_encode (o : Opts) (hc : CachesConsistent o) (t : Ty) (v : Val) (bs rest : Bytes) (fuel : Nat)
    (he : encode o t v = some bs) (hd : DescOK o t) (hl : (encTy o t).length < 65536) (hg : Good o t v)
    (hf : v.depth ≤ fuel) : decodeRaw o fuel (bs ++ rest) = .ok (some (t, v), rest) := by
  obtain ⟨_, hne, hnn, body, hb, rfl⟩ := encode_ok he
  rw [decodeRaw_eq, List.append_assoc, dec_any_hdr o hc true hd hl hne hnn (dec_encB o hc fuel v t body rest hb hg hf)]
  rfl

end ErgoVerif.Edf
