import ErgoVerif.Lemmas.Handshake
/-! what each party requires to complete, the honest run computed, the replay argument over an abstract knowledge
    set, and the knowledge set of an eavesdropper of earlier honest sessions -/
namespace ErgoVerif.Handshake

theorem accept_main_ok {cfg : Cfg} {s id : Atom} {saltI digestI : Field} {rest : List Msg}
    (h : isOk (accept cfg s id (.hello saltI digestI :: rest)).res = true) :
    digestI = [H (saltI ++ [cfg.cookie])] ∧
    ∃ info dg rest2, rest = .intro info dg :: rest2 ∧ dg = [H [s, cfg.cookie]] ∧ info.name ≠ cfg.info.name := by
  generalize hi : Msg.hello saltI digestI :: rest = inbox at h
  revert h
  -- the one branch of `accept` that completes on a Hello has passed both digest checks and the name check
  fun_cases accept cfg s id inbox <;> intro h <;> cases h <;> cases hi
  exact ⟨by simp_all +zetaDelta, _, _, _, rfl, by simp_all +zetaDelta, ‹_›⟩

theorem accept_first_sent (cfg : Cfg) (s id : Atom) (saltI : Field) :
    (accept cfg s id [.hello saltI [H (saltI ++ [cfg.cookie])]]).sent =
      [.hello [s] [H [s, H (saltI ++ [cfg.cookie]), cfg.cookie]]] := by
  simp [accept]

theorem start_first_sent (cfg : Cfg) (s : Atom) : (start cfg s []).sent = [.hello [s] [H [s, cfg.cookie]]] := by
  simp [start]

theorem join_first_sent (cfg : Cfg) (s : Atom) (id : Field) :
    (join cfg s id []).sent = [.join cfg.info.name id [s] [H (id ++ [s, cfg.cookie])]] := by
  simp [join]

theorem start_ok {cfg : Cfg} {s : Atom} {inbox : List Msg}
    (h : isOk (start cfg s inbox).res = true) :
    ∃ salt2 d2 rest, inbox = .hello salt2 d2 :: rest ∧ d2 = [H (salt2 ++ [H [s, cfg.cookie], cfg.cookie])] := by
  revert h
  fun_cases start cfg s inbox <;> intro h <;> cases h
  exact ⟨_, _, _, rfl, by simp_all +zetaDelta⟩

theorem join_ok {cfg : Cfg} {s : Atom} {id : Field} {inbox : List Msg}
    (h : isOk (join cfg s id inbox).res = true) :
    ∃ i p dg rest, inbox = .accept i p dg :: rest ∧ dg = [H [H (id ++ [s, cfg.cookie]), cfg.cookie]] := by
  revert h
  fun_cases join cfg s id inbox <;> intro h <;> cases h
  exact ⟨_, _, _, _, rfl, by simp_all +zetaDelta⟩

/-- `Accept` on a Join: one digest check, to which the acceptor contributes nothing of its own -/
theorem accept_join (cfg : Cfg) (s id : Atom) (node : Nat) (cid sj dj : Field) (rest : List Msg) :
    accept cfg s id (.join node cid sj dj :: rest) =
      if dj = [H (cid ++ sj ++ [cfg.cookie])] then
        ⟨[.accept emptyF 0 [H (dj ++ [cfg.cookie])]], .ok ⟨cid, node, 0, 0, 0, 0, 0, 0⟩⟩
      else ⟨[], .error .digest⟩ := by
  simp [accept]

theorem accept_join_ok_iff {cfg : Cfg} {s id : Atom} {node : Nat} {cid sj dj : Field} {rest : List Msg} :
    isOk (accept cfg s id (.join node cid sj dj :: rest)).res = true ↔ dj = [H (cid ++ sj ++ [cfg.cookie])] := by
  rw [accept_join]
  split
  · exact iff_of_true rfl ‹_›
  · exact iff_of_false nofun ‹_›

theorem two_singletons {cid sj : Field} (hc : cid ≠ []) (hs : sj ≠ []) {z : Atom} {l : List Atom}
    (h : cid ++ sj ++ [z] = l) (hl : l.length ≤ 3) : ∃ x y, cid = [x] ∧ sj = [y] ∧ l = [x, y, z] := by
  have h1 := List.length_pos_iff.mpr hc
  have h2 := List.length_pos_iff.mpr hs
  subst h
  simp only [List.length_append, List.length_cons, List.length_nil] at hl
  obtain ⟨a, rfl⟩ := List.length_eq_one_iff.mp (by omega : cid.length = 1)
  obtain ⟨b, rfl⟩ := List.length_eq_one_iff.mp (by omega : sj.length = 1)
  exact ⟨a, b, rfl, rfl, rfl⟩

theorem honest_eq (cI cA : Cfg) (sI sA idA : Atom) :
    honest cI cA sI sA idA =
      let helloI := Msg.hello [sI] [H [sI, cI.cookie]]
      let helloA := Msg.hello [sA] [H [sA, H [sI, cI.cookie], cI.cookie]]
      let introI := Msg.intro cI.info [H [sA, cI.cookie]]
      if cI.cookie ≠ cA.cookie then ⟨[], [helloI], .error .read, .error .digest⟩
      else if cI.info.name = cA.info.name then ⟨[helloA], [helloI, introI], .error .read, .error .sameName⟩
      else ⟨[helloA, .accept [idA] cA.poolSize emptyF, .intro cA.info emptyF], [helloI, introI, .accept emptyF 0 emptyF],
        .ok (resultOf [idA] cA.info cI), .ok (resultOf [idA] cI.info cA)⟩ := by
  by_cases hc : cI.cookie = cA.cookie
  · by_cases hn : cI.info.name = cA.info.name
    · simp [honest, deliver, round, start, accept, hc, hn]
    · have hn' : ¬ cA.info.name = cI.info.name := fun h => hn h.symm
      simp [honest, deliver, round, start, accept, hc, hn, hn']
  · simp [honest, deliver, round, start, accept, hc]

/-- knowledge after hearing more atoms -/
def learn (K : Atom → Prop) (l : List Atom) : Atom → Prop := fun t => K t ∨ t ∈ l

/-- The replay argument: a digest over the cookie in which the fresh nonce `s` occurs, and which was not itself heard,
    is beyond the adversary's reach. -/
theorem fresh_digest_underivable {K : Atom → Prop} {adv : Nat → Prop} {c s : Nat}
    (hk : ¬ K (.cookie c)) (hfresh : ∀ t, K t → t.occurs s = false) {sent l : List Atom}
    (hsc : .cookie c ∉ sent) (hc : .cookie c ∈ l) (hs : l.any (·.occurs s) = true) (hns : H l ∉ sent) :
    ¬ DerivF (learn K sent) adv [H l] := fun h =>
  (hash_cookie_known (fun hk' => hk'.elim hk hsc) hc (h _ (List.mem_singleton.mpr rfl))).elim
    (fun hK => by have := hfresh _ hK; simp [hs] at this) hns

/-- a node adding a link to its connection cannot be answered by someone without the cookie: the reply
    digest covers the Join digest, which covers the initiator's fresh salt -/
theorem join_initiator_not_fooled (cfg : Cfg) (c : Nat) (hcfg : cfg.cookie = .cookie c)
    (K : Atom → Prop) (adv : Nat → Prop) (s idn : Nat)
    (hk : ¬ K (.cookie c)) (hfresh : ∀ t, K t → t.occurs s = false)
    (inbox : List Msg)
    (hder : ∀ i p dg, inbox.head? = some (.accept i p dg) →
      DerivF (learn K ((join cfg (.nonce s) [.nonce idn] []).sent.flatMap Msg.atoms)) adv dg) :
    isOk (join cfg (.nonce s) [.nonce idn] inbox).res = false := by
  refine Bool.eq_false_iff.mpr fun hok => ?_
  obtain ⟨i, p, dg, rest, rfl, rfl⟩ := join_ok hok
  have h1 := hder i p _ rfl
  rw [join_first_sent, hcfg] at h1
  exact fresh_digest_underivable hk hfresh (by simp [Msg.atoms]) (by simp) (by simp) (by simp [Msg.atoms]) h1

/-- earlier honest, successful sessions an eavesdropper has recorded -/
inductive Past
  | main (cI cA : Cfg) (sI sA idA : Nat)
  | join (cJ cA : Cfg) (sJ idn : Nat)          -- an additional link joined to connection id `idn`

-- the two `.nonce 0` of a join stand for the acceptor's salt and id, which `accept` does not look at on a Join
def Past.session : Past → Session
  | .main cI cA sI sA idA => honest cI cA (.nonce sI) (.nonce sA) (.nonce idA)
  | .join cJ cA sJ idn => honestJoin cJ cA (.nonce sJ) (.nonce 0) (.nonce 0) [.nonce idn]

/-- the sessions used cookie `c` on both sides (and succeeded) -/
def Past.wf (c : Nat) : Past → Prop
  | .main cI cA _ _ _ => cI.cookie = .cookie c ∧ cA.cookie = .cookie c ∧ cI.info.name ≠ cA.info.name
  | .join cJ cA _ _ => cJ.cookie = .cookie c ∧ cA.cookie = .cookie c

def Past.nonces : Past → List Nat
  | .main _ _ sI sA idA => [sI, sA, idA]
  | .join _ _ sJ idn => [sJ, idn]

/-- everything that was on the wire in the recorded sessions -/
def Known (ps : List Past) : Atom → Prop := fun t => ∃ p ∈ ps, t ∈ p.session.atoms

theorem DerivF.of_recorded {ps : List Past} {p : Past} (hp : p ∈ ps) (adv : Nat → Prop) {f : Field}
    (h : ∀ a ∈ f, a ∈ p.session.atoms) : DerivF (Known ps) adv f :=
  fun a ha => .ax ⟨p, hp, h a ha⟩

theorem main_atoms {c : Nat} {cI cA : Cfg} {sI sA idA : Nat} (h : (Past.main cI cA sI sA idA).wf c) :
    (Past.main cI cA sI sA idA).session.atoms =
      [.nonce sA, H [.nonce sA, H [.nonce sI, .cookie c], .cookie c], .nonce idA, .nonce 0, .nonce 0,
       .nonce sI, H [.nonce sI, .cookie c], H [.nonce sA, .cookie c], .nonce 0, .nonce 0] := by
  obtain ⟨h1, h2, h3⟩ := h
  simp [Past.session, honest_eq, Session.atoms, Msg.atoms, emptyF, h1, h2, h3]

theorem join_atoms {c : Nat} {cJ cA : Cfg} {sJ idn : Nat} (h : (Past.join cJ cA sJ idn).wf c) :
    (Past.join cJ cA sJ idn).session.atoms =
      [.nonce 0, H [H [.nonce idn, .nonce sJ, .cookie c], .cookie c],
       .nonce idn, .nonce sJ, H [.nonce idn, .nonce sJ, .cookie c]] := by
  obtain ⟨h1, h2⟩ := h
  simp [Past.session, honestJoin, join, accept_join, Session.atoms, Msg.atoms, emptyF, h1, h2]

theorem known_no_cookie {c : Nat} {ps : List Past} (hwf : ∀ p ∈ ps, p.wf c) : ¬ Known ps (.cookie c) := by
  intro ⟨p, hp, hm⟩
  cases p with
  | main cI cA sI sA idA => rw [main_atoms (hwf _ hp)] at hm; simp at hm
  | join cJ cA sJ idn => rw [join_atoms (hwf _ hp)] at hm; simp at hm

theorem known_fresh {c : Nat} {ps : List Past} (hwf : ∀ p ∈ ps, p.wf c) {s : Nat} (hs0 : s ≠ 0)
    (hs : ∀ p ∈ ps, s ∉ p.nonces) : ∀ t, Known ps t → t.occurs s = false := by
  intro t ⟨p, hp, hm⟩
  have hsp := hs p hp
  revert t
  -- the nonces in the recorded atoms are those of `p.nonces` and 0 (the empty string), and `s` is none of them
  cases p with
  | main cI cA sI sA idA =>
    rw [main_atoms (hwf _ hp)]
    simp only [Past.nonces, List.mem_cons, List.not_mem_nil, or_false, not_or] at hsp
    simp [Ne.symm hsp.1, Ne.symm hsp.2.1, Ne.symm hsp.2.2, Ne.symm hs0]
  | join cJ cA sJ idn =>
    rw [join_atoms (hwf _ hp)]
    simp only [Past.nonces, List.mem_cons, List.not_mem_nil, or_false, not_or] at hsp
    simp [Ne.symm hsp.1, Ne.symm hsp.2, Ne.symm hs0]

end ErgoVerif.Handshake
