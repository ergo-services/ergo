import ErgoVerif.Model.Edf
/-! Integers on the wire, the caches two nodes share, atoms (what a successful `readAtom` hands out: `readAtom_of`), and
    the leaf encoders against the leaf decoders; the leaf decoders never panic. -/
namespace ErgoVerif.Edf
open ErgoVerif.Generated.Edt

@[simp] theorem lenLt_eq : (bs : Bytes) → (n : Nat) → lenLt bs n = decide (bs.length < n)
  | _, 0 => by simp [lenLt]
  | [], n+1 => by simp [lenLt]
  | _ :: r, n+1 => by simp [lenLt, lenLt_eq r n]

theorem le_of_not_lenLt {bs : Bytes} {n : Nat} (h : ¬ lenLt bs n = true) : n ≤ bs.length := by simpa using h

-- Bounds stay literals (`65536`, `4294967296`, further on `255`, `4095`, `32767`) where the statements they are used
-- against (`CachesConsistent`, `DescOK`, `LeafRep`) write literals; the `lim*` names enter only by unfolding.
theorem rd16_be16 (n : Nat) (h : n < 65536) (r : Bytes) : rd16 (be16 n ++ r) = some (n, r) := by
  simp only [be16, rd16, List.cons_append, List.nil_append, UInt8.toNat_ofNat']
  congr 2
  omega

theorem rd32_be32 (n : Nat) (h : n < 4294967296) (r : Bytes) : rd32 (be32 n ++ r) = some (n, r) := by
  simp only [be32, rd32, List.cons_append, List.nil_append, UInt8.toNat_ofNat']
  congr 2
  omega

theorem rd16_ok (bs : Bytes) (n : Nat) (r : Bytes) (h : rd16 bs = some (n, r)) : n < 65536 ∧ r.length + 2 = bs.length := by
  match bs, h with
  | a :: b :: r', h =>
    simp [rd16] at h
    obtain ⟨rfl, rfl⟩ := h
    have := a.toNat_lt; have := b.toNat_lt
    simp; omega

theorem rd32_ok (bs : Bytes) (n : Nat) (r : Bytes) (h : rd32 bs = some (n, r)) : n < 4294967296 ∧ r.length + 4 = bs.length := by
  match bs, h with
  | a :: b :: c :: d :: r', h =>
    simp [rd32] at h
    obtain ⟨rfl, rfl⟩ := h
    have := a.toNat_lt; have := b.toNat_lt; have := c.toNat_lt; have := d.toNat_lt
    simp; omega

@[simp] theorem be16_length (n : Nat) : (be16 n).length = 2 := rfl
@[simp] theorem be32_length (n : Nat) : (be32 n).length = 4 := rfl

/-- the decode caches invert the encode caches (what the handshake builds, see `Model/HsCache`) and ids are in
    the ranges the registration functions hand out.  `reg` needs no guard: a registered type always travels as its
    cache id when it has one; 65535 is kept from `err` because it is the nil error on the wire (`errNilId`). -/
structure CachesConsistent (o : Opts) : Prop where
  atom : ∀ a id, o.atomId a = some id → limAtomIdEnc < id → id < 65536 ∧ o.atomOf id = some a
  reg : ∀ nm id, o.regId nm = some id → limRegIdDec < id ∧ id < 65536 ∧ o.regOf id = some nm
  err : ∀ k id, o.errId k = some id → limErrIdEnc < id → id < 65535 ∧ o.errOf id = some (.errSent k)

/-- the atom survives the two AtomMappings and the mapped atom is still an atom -/
def AtomOK (o : Opts) (a : Bytes) : Prop := (o.emap a).length ≤ 255 ∧ o.dmap (o.emap a) = a

theorem take_drop_append_left (a r : Bytes) : (a ++ r).take a.length = a ∧ (a ++ r).drop a.length = r := by
  simp

theorem readAtom_writeAtom' (o : Opts) (hc : CachesConsistent o) (a r : Bytes) (hl : (o.emap a).length ≤ 255) :
    readAtom o (writeAtom o a ++ r) = .ok (o.dmap (o.emap a), r) := by
  unfold writeAtom
  simp only
  have plain : readAtom o ((be16 (o.emap a).length ++ o.emap a) ++ r) = .ok (o.dmap (o.emap a), r) := by
    unfold readAtom
    rw [List.append_assoc, rd16_be16 _ (by omega)]
    simp only [limAtomIdDec]
    have : ¬ (o.emap a).length > 255 := by omega
    simp [this]
  cases hid : o.atomId (o.emap a) with
  | none => simpa using plain
  | some id =>
    simp only
    split
    · rename_i hgt
      obtain ⟨h1, h2⟩ := hc.atom _ _ hid hgt
      unfold readAtom
      rw [rd16_be16 _ h1]
      simp only [limAtomIdDec, limAtomIdEnc] at hgt ⊢
      simp [hgt, h2]
    · simpa using plain

theorem readAtom_writeAtom (o : Opts) (hc : CachesConsistent o) (a r : Bytes) (ha : AtomOK o a) :
    readAtom o (writeAtom o a ++ r) = .ok (a, r) := by
  rw [readAtom_writeAtom' o hc a r ha.1, ha.2]

/-- `P`: any property that every atom the decoding side can hand out has, cached (`hc`) or inline (`hi`) -/
theorem readAtom_of {o : Opts} {P : Bytes → Prop} (hc : ∀ id a, o.atomOf id = some a → P (o.dmap a))
    (hi : ∀ a : Bytes, a.length ≤ 255 → P (o.dmap a)) {bs a r : Bytes} : readAtom o bs = .ok (a, r) →
    P a ∧ r.length ≤ bs.length := by
  fun_cases readAtom o bs <;> intro h <;> cases h <;> obtain ⟨_, hl⟩ := rd16_ok _ _ _ ‹_›
  · exact ⟨hc _ _ ‹_›, by omega⟩
  · have : limAtomIdDec = 255 := rfl
    have := le_of_not_lenLt ‹_›
    exact ⟨hi _ (by simp; omega), by simp; omega⟩

/-- canonical form of a leaf: what `decLeaf` hands back for it is the value itself -/
def LeafGood (o : Opts) : Ty → Val → Prop
  | .num p, .num bs => numCanon p bs = bs
  | .atom, .atom a => AtomOK o a
  | .idr _, .idr node _ => AtomOK o node
  | .idn _, .idn node name => AtomOK o node ∧ AtomOK o name
  | .error, .errSent k => ∃ id, o.errId k = some id ∧ limErrIdEnc < id
  | _, _ => True

theorem numCanon_length (p : Num) (bs : Bytes) : (numCanon p bs).length = bs.length := by
  unfold numCanon
  split
  · fun_cases quiet32 bs <;> rfl
  · rfl

theorem quiet32_shape (a b c d : UInt8) :
    quiet32 [a, b, c, d] = [a, b, c, d] ∨ quiet32 [a, b, c, d] = [a, b ||| 0x40, c, d] := by
  simp only [quiet32]; split <;> simp

theorem quiet32_idem (bs : Bytes) : quiet32 (quiet32 bs) = quiet32 bs := by
  fun_cases quiet32 bs
  -- a signalling NaN: quieting sets one bit, a second time it is set already
  · rename_i a b c d _
    rcases quiet32_shape a (b ||| 0x40) c d with h | h
    · exact h
    · rw [h, UInt8.or_assoc]; rfl
  · simp only [quiet32, *]; rfl
  -- not four bytes
  · rw [quiet32.eq_2 _ ‹_›]

theorem numCanon_idem (p : Num) (bs : Bytes) : numCanon p (numCanon p bs) = numCanon p bs := by
  unfold numCanon
  split
  · exact quiet32_idem bs
  · rfl

theorem timeValid_len (bs : Bytes) (h : timeValid bs = true) : bs.length < 256 := by
  cases bs with
  | nil => simp [timeValid] at h
  | cons x xs => simp [timeValid] at h; rcases h with ⟨_, h⟩ | ⟨_, h⟩ <;> simp [h]

/-- a text of at most 32767 bytes behind its length is read as a text error: the length is neither the nil id nor a
    cache id -/
theorem decLeaf_errText (o : Opts) (s : Bytes) (hl : s.length ≤ 32767) (r : Bytes) :
    decLeaf o .error (be16 s.length ++ s ++ r) = .ok (.errText s, r) := by
  have h1 : ¬ s.length = errNilId := by simp [errNilId]; omega
  have h2 : ¬ s.length > limErrIdDec := by simp [limErrIdDec]; omega
  simp [decLeaf, List.append_assoc, rd16_be16 _ (show s.length < 65536 by omega), h1, h2]

theorem decLeaf_encLeaf (o : Opts) (hc : CachesConsistent o) (t : Ty) (v : Val) (bs r : Bytes) :
    encLeaf o t v = some bs → LeafGood o t v → decLeaf o t (bs ++ r) = .ok (v, r) := by
  fun_cases encLeaf o t v <;> intro he hg <;> cases he
  · rename_i b; cases b <;> rfl
  · rename_i hw; simp only [LeafGood] at hg; simp [decLeaf, ← hw, hg]
  · rename_i s hl
    simp only [limStringEnc] at hl
    simp [decLeaf, List.append_assoc, rd16_be16 _ (show s.length < 65536 by omega)]
  · rename_i s hl
    simp only [limBinaryEnc] at hl
    simp [decLeaf, List.append_assoc, rd32_be32 _ (show s.length < 4294967296 by omega)]
  · simp [decLeaf, readAtom_writeAtom o hc _ r hg]
  · rename_i hw; simp [decLeaf, List.append_assoc, readAtom_writeAtom o hc _ _ hg, ← hw]
  · simp [decLeaf, List.append_assoc, readAtom_writeAtom o hc _ _ hg.1, readAtom_writeAtom o hc _ _ hg.2]
  · rename_i tb hv; simp [decLeaf, UInt8.toNat_ofNat', Nat.mod_eq_of_lt (timeValid_len tb hv), hv]
  · rename_i s hl
    exact decLeaf_errText o s (by simp only [limErrorEnc] at hl; omega) r
  · rename_i k id hid hgt
    obtain ⟨h1, h2⟩ := hc.err _ _ hid hgt
    have h3 : ¬ id = errNilId := by simp [errNilId]; omega
    have h4 : id > limErrIdDec := by simp [limErrIdDec, limErrIdEnc] at hgt ⊢; omega
    simp [decLeaf, rd16_be16 _ (show id < 65536 by omega), h3, h4, h2]
  -- a sentinel is canonical only when it travels as its cache id: the other two ways out contradict `LeafGood`
  · obtain ⟨id, hid, hgt⟩ := hg; simp_all; omega
  · obtain ⟨id, hid, hgt⟩ := hg; simp_all

theorem readAtom_ne_panic (o : Opts) (bs : Bytes) : readAtom o bs ≠ .panic := by
  fun_cases readAtom o bs <;> nofun

-- Stated here, above the modules that take `decLeaf` apart by `fun_cases` on their own (EdfSafe, EdfReenc, EdfDecGood):
-- the first use generates the auxiliary declarations of the case principle, and two modules that each generated
-- them cannot be imported together.
theorem decLeaf_ne_panic (o : Opts) (t : Ty) (bs : Bytes) : decLeaf o t bs ≠ .panic := by
  fun_cases decLeaf o t bs <;> first | exact absurd ‹_› (readAtom_ne_panic o _) | nofun

end ErgoVerif.Edf
