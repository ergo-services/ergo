import ErgoVerif.Lemmas.EdfEnc
/-! `Rep`: the values the encoder accepts, defined clause by clause like `encB` (`encB_rep_all`). -/
namespace ErgoVerif.Edf
open ErgoVerif.Generated.Edt

/-- representable leaves: the value has the shape of the type and is within the wire limits -/
def LeafRep (o : Opts) : Ty → Val → Prop
  | .bool, .bool _ => True
  | .num p, .num bs => bs.length = p.width
  | .str, .str s => s.length ≤ 65535
  | .bin, .bin s => s.length ≤ 4294967295
  | .atom, .atom a => a.length ≤ 255
  | .idr k, .idr node raw => node.length ≤ 255 ∧ raw.length = k.rawLen
  | .idn _, .idn node name => node.length ≤ 255 ∧ name.length ≤ 255
  | .time, .time bs => timeValid bs = true
  | .error, .errText s => s.length ≤ 32767
  | .error, .errSent k => (∃ id, o.errId k = some id ∧ id > 32767) ∨ (o.errText k).length ≤ 32767
  | _, _ => False

theorem encLeaf_rep (o : Opts) (t : Ty) (v : Val) : (encLeaf o t v).isSome = true ↔ LeafRep o t v := by
  -- every way out of `encLeaf` is behind comparisons with wire limits, and `LeafRep` states the same comparisons
  fun_cases encLeaf o t v <;>
    simp only [LeafRep, limStringEnc, limBinaryEnc, limAtomEnc, limAtomPidEnc, limErrorEnc, limErrIdEnc, Option.isSome_some,
      Option.isSome_none, true_iff, Bool.false_eq_true, false_iff] at * <;> try omega
  -- what is left is the sentinel, the one value with two ways through: cached under an id above the limit (case20);
  -- cached under a smaller id (case21) or not cached (case23), and its text too long
  case case20 hid hgt => exact .inl ⟨_, hid, hgt⟩
  case case21 hid hle _ =>
    rintro (⟨id, h1, h2⟩ | h)
    · cases hid.symm.trans h1; exact hle h2
    · omega
  case case23 hid _ =>
    rintro (⟨id, h1, -⟩ | h)
    · cases hid.symm.trans h1
    · omega

mutual
/-- representable values: exactly what the encoder accepts (`C11_reject`) -/
def Rep (o : Opts) : Ty → Val → Prop
  | .error, .nil => True
  | .any, .nil => True
  | .any, .any t v => t.encodable = true ∧ t ≠ .any ∧ ¬ (t = .error ∧ v = .nil) ∧ Rep o t v
  | .slice _, .nil => True
  | .slice t, .list vs => Reps o t vs
  | .array n t, .list vs => vs.length = n ∧ Reps o t vs
  | .map _ _, .nil => True
  | .map k v, .map ps => Repp o k v ps
  | .named _ (.slice _), .nil => True
  | .named _ (.slice t), .list vs => Reps o t vs
  | .named _ (.array n t), .list vs => vs.length = n ∧ Reps o t vs
  | .named _ (.map _ _), .nil => True
  | .named _ (.map k v), .map ps => Repp o k v ps
  | .struct _ fs, .list vs => Repf o fs vs
  | .marsh _ _, .opaque p => p.length ≤ 4294967294
  | .named _ t, v => t.namedLeaf = true ∧ LeafRep o t v
  | t, v => LeafRep o t v
def Reps (o : Opts) : Ty → Vals → Prop
  | _, .nil => True
  | t, .cons v vs => Rep o t v ∧ Reps o t vs
def Repp (o : Opts) : Ty → Ty → Pairs → Prop
  | _, _, .nil => True
  | kt, vt, .cons k v ps => Rep o kt k ∧ Rep o vt v ∧ Repp o kt vt ps
def Repf (o : Opts) : Tys → Vals → Prop
  | .nil, .nil => True
  | .cons t ts, .cons v vs => Rep o t v ∧ Repf o ts vs
  | _, _ => False
end

theorem isSome_map {α β : Type} (x : Option α) (f : α → β) : (x.map f).isSome = x.isSome := Option.isSome_map

/-- The cases come in the order of `Rep.mutual_induct`: the fifteen structural clauses of `Rep`, its two catch-alls,
    then `Repf` (nil, cons, mismatch), `Reps` (nil, cons), `Repp` (nil, cons). -/
theorem encB_rep_all (o : Opts) :
    (∀ t v, (encB o t v).isSome = true ↔ Rep o t v) ∧ (∀ fs vs, (encf o fs vs).isSome = true ↔ Repf o fs vs) ∧
    (∀ kt vt ps, (encp o kt vt ps).isSome = true ↔ Repp o kt vt ps) ∧ (∀ t vs, (encs o t vs).isSome = true ↔ Reps o t vs) := by
  refine Rep.mutual_induct (motive_1 := fun t v => (encB o t v).isSome = true ↔ Rep o t v)
    (motive_2 := fun fs vs => (encf o fs vs).isSome = true ↔ Repf o fs vs)
    (motive_3 := fun kt vt ps => (encp o kt vt ps).isSome = true ↔ Repp o kt vt ps)
    (motive_4 := fun t vs => (encs o t vs).isSome = true ↔ Reps o t vs)
    ?_ ?_ ?_ ?_ ?_ ?_ ?_ ?_ ?_ ?_ ?_ ?_ ?_ ?_ ?_ ?_ ?_ ?_ ?_ ?_ ?_ ?_ ?_ ?_
  · simp [encB, Rep]
  · simp [encB, Rep]
  · intro t v ih; simp only [encB_any, encode_isSome_iff, Rep, ih]
  · intro t; simp [encB, Rep]
  · intro t vs ih; simp only [encB, Rep, Option.isSome_map, ih]
  · intro n t vs ih
    simp only [encB, Rep, ← ih]
    split <;> simp [*]
  · intro k v; simp [encB, Rep]
  · intro k v ps ih; simp only [encB, Rep, Option.isSome_map, ih]
  · intro nm t; simp [encB, Rep]
  · intro nm t vs ih; simp only [encB, Rep, Option.isSome_map, ih]
  · intro nm n t vs ih
    simp only [encB, Rep, ← ih]
    split <;> simp [*]
  · intro nm k v; simp [encB, Rep]
  · intro nm k v ps ih; simp only [encB, Rep, Option.isSome_map, ih]
  · intro nm fs vs ih; simp only [encB, Rep, ih]
  · intro nm sz p
    simp only [encB, Rep, limBinaryEnc]
    by_cases h : p.length > 4294967295 - 1 <;> simp [h] <;> omega
  · intro nm t v _ _ _ _ _
    simp only [encB, Rep, ← encLeaf_rep]
    split <;> simp [*]
  · intro t v _ _ _ _ _ _ _ _ _ _ _ _ _ _ _ _
    simp only [encB, Rep]
    exact encLeaf_rep o t v
  · simp [encf, Repf]
  · intro t ts v vs ih1 ih2; simp only [encf_isSome_cons, Repf, Bool.and_eq_true, ih1, ih2]
  · intro vs fs _ _; simp only [encf, Repf]; simp
  · intro t; simp [encs, Reps]
  · intro t v vs ih1 ih2; simp only [encs_isSome_cons, Reps, Bool.and_eq_true, ih1, ih2]
  · intro kt vt; simp [encp, Repp]
  · intro kt vt k v ps ih1 ih2 ih3; simp only [encp_isSome_cons, Repp, Bool.and_eq_true, ih1, ih2, ih3, and_assoc]

theorem encB_rep (o : Opts) : (v : Val) → (t : Ty) → ((encB o t v).isSome = true ↔ Rep o t v) :=
  fun v t => (encB_rep_all o).1 t v
theorem encs_rep (o : Opts) : (vs : Vals) → (t : Ty) → ((encs o t vs).isSome = true ↔ Reps o t vs) :=
  fun vs t => (encB_rep_all o).2.2.2 t vs
theorem encp_rep (o : Opts) : (ps : Pairs) → (kt vt : Ty) → ((encp o kt vt ps).isSome = true ↔ Repp o kt vt ps) :=
  fun ps kt vt => (encB_rep_all o).2.2.1 kt vt ps
theorem encf_rep (o : Opts) : (vs : Vals) → (fs : Tys) → ((encf o fs vs).isSome = true ↔ Repf o fs vs) :=
  fun vs fs => (encB_rep_all o).2.1 fs vs
end ErgoVerif.Edf
