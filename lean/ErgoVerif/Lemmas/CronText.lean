/-
The text functions under the cron parser and printer; `Numeral` is what cronParseInt reads and the printer's `digits`
writes.
-/
import ErgoVerif.Model.Cron
namespace ErgoVerif.Cron

theorem char_le_toNat {c d : Char} (h : c ≤ d) : c.toNat ≤ d.toNat :=
  UInt32.le_iff_toNat_le.mp (Char.le_def.mp h)

theorem digitChar_spec : ∀ d, d < 10 → isDigit (digitChar d) = true ∧ (digitChar d).toNat - 48 = d := by decide

theorem digit_toNat {c : Char} (h : isDigit c = true) : 48 ≤ c.toNat ∧ c.toNat ≤ 57 := by
  unfold isDigit at h
  simp only [Bool.and_eq_true, decide_eq_true_eq] at h
  exact ⟨char_le_toNat h.1, char_le_toNat h.2⟩

theorem digit_ne {c : Char} (h : isDigit c = true) (x : Char) (hx : isDigit x = false) : c ≠ x := by
  rintro rfl; rw [h] at hx; cases hx

theorem not_space_of_range (c : Char) (h1 : 33 ≤ c.toNat) (h2 : c.toNat ≤ 126) : isSpace c = false := by
  unfold isSpace
  have e1 : c ≠ ' ' := by rintro rfl; revert h1; decide
  have e2 : c ≠ '\t' := by rintro rfl; revert h1; decide
  have e3 : c ≠ '\n' := by rintro rfl; revert h1; decide
  have e4 : c ≠ '\r' := by rintro rfl; revert h1; decide
  simp only [e1, e2, e3, e4, decide_false, Bool.false_or, Bool.or_eq_false_iff, Bool.and_eq_false_iff,
    decide_eq_false_iff_not]
  omega

theorem splitOn_ne_nil (sep : Char) (cs : List Char) : splitOn sep cs ≠ [] := by
  fun_cases splitOn sep cs <;> simp

theorem splitOn_of_not_mem (sep : Char) (cs : List Char) (h : sep ∉ cs) : splitOn sep cs = [cs] := by
  induction cs with
  | nil => rfl
  | cons c rest ih =>
    have hc : c ≠ sep := fun e => h (e ▸ List.mem_cons_self)
    have hr : sep ∉ rest := fun e => h (List.mem_cons_of_mem _ e)
    simp [splitOn, hc, ih hr]

theorem splitOn_append_sep (sep : Char) (a b : List Char) (h : sep ∉ a) :
    splitOn sep (a ++ sep :: b) = a :: splitOn sep b := by
  induction a with
  | nil => simp [splitOn]
  | cons c rest ih =>
    have hc : c ≠ sep := fun e => h (e ▸ List.mem_cons_self)
    have hr : sep ∉ rest := fun e => h (List.mem_cons_of_mem _ e)
    simp [splitOn, hc, ih hr]

theorem splitOn_joinWith (sep : Char) (xs : List (List Char)) (hne : xs ≠ []) (h : ∀ x ∈ xs, sep ∉ x) :
    splitOn sep (joinWith sep xs) = xs := by
  fun_induction joinWith sep xs with
  | case1 => exact absurd rfl hne
  | case2 x => exact splitOn_of_not_mem sep x (h x List.mem_cons_self)
  | case3 x y r ih =>
    rw [splitOn_append_sep sep x _ (h x List.mem_cons_self), ih (by simp) fun z hz => h z (List.mem_cons_of_mem _ hz)]

theorem joinWith_splitOn (sep : Char) (cs : List Char) : joinWith sep (splitOn sep cs) = cs := by
  fun_induction splitOn sep cs
  next => rfl
  next cs ih =>
    cases hs : splitOn sep cs with
    | nil => exact absurd hs (splitOn_ne_nil sep cs)
    | cons w ws => rw [hs] at ih; simp only [joinWith, List.nil_append, ih]
  next c cs _ hs _ => exact absurd hs (splitOn_ne_nil sep cs)
  next c cs _ w ws hs ih =>
    rw [← ih, hs]
    cases ws <;> simp [joinWith]

theorem splitOn_one {sep : Char} {cs a : List Char} (h : splitOn sep cs = [a]) : cs = a := by
  have := joinWith_splitOn sep cs; rw [h] at this; simpa [joinWith] using this.symm

theorem splitOn_two {sep : Char} {cs a b : List Char} (h : splitOn sep cs = [a, b]) : cs = a ++ sep :: b := by
  have := joinWith_splitOn sep cs; rw [h] at this; simpa [joinWith] using this.symm

theorem mem_joinWith {sep c : Char} {xs : List (List Char)} (h : c ∈ joinWith sep xs) :
    c = sep ∨ ∃ x ∈ xs, c ∈ x := by
  fun_induction joinWith sep xs with
  | case1 => cases h
  | case2 x => exact .inr ⟨x, List.mem_cons_self, h⟩
  | case3 x y r ih =>
    rcases List.mem_append.mp h with h | h
    · exact .inr ⟨x, List.mem_cons_self, h⟩
    · rcases List.mem_cons.mp h with h | h
      · exact .inl h
      · exact (ih h).imp_right fun ⟨z, hz, hc⟩ => ⟨z, List.mem_cons_of_mem _ hz, hc⟩

theorem single_some {cs : List Char} {c : Char} : single cs = some c → cs = [c] := by
  fun_cases single cs <;> intro h <;> cases h
  rfl

theorem fieldsAux_word (w rest cur : List Char) (h : ∀ c ∈ w, isSpace c = false) :
    fieldsAux (w ++ rest) cur = fieldsAux rest (w.reverse ++ cur) := by
  induction w generalizing cur with
  | nil => simp
  | cons c r ih =>
    have hc := h c List.mem_cons_self
    simp only [List.cons_append, fieldsAux, hc, Bool.false_eq_true, if_false]
    rw [ih _ (fun x hx => h x (List.mem_cons_of_mem _ hx))]
    simp

/-- a word is closed by the end of the text or by a blank -/
theorem fieldsAux_closed (w : List Char) (hne : w ≠ []) (h : ∀ c ∈ w, isSpace c = false) :
    fieldsAux w [] = [w] ∧ ∀ rest, fieldsAux (w ++ ' ' :: rest) [] = w :: fieldsAux rest [] := by
  have hemp : w.reverse.isEmpty = false := by simpa using hne
  constructor
  · have := fieldsAux_word w [] [] h
    simp only [List.append_nil] at this
    simp [this, fieldsAux, hemp]
  · intro rest
    rw [fieldsAux_word w _ [] h]
    simp [fieldsAux, show isSpace ' ' = true by decide, hemp]

theorem fields_joinWith (ws : List (List Char)) (h : ∀ w ∈ ws, w ≠ [] ∧ ∀ c ∈ w, isSpace c = false) :
    fields (joinWith ' ' ws) = ws := by
  unfold fields
  fun_induction joinWith ' ' ws with
  | case1 => rfl
  | case2 w => exact (fieldsAux_closed w (h w List.mem_cons_self).1 (h w List.mem_cons_self).2).1
  | case3 w y r ih =>
    rw [(fieldsAux_closed w (h w List.mem_cons_self).1 (h w List.mem_cons_self).2).2,
      ih fun z hz => h z (List.mem_cons_of_mem _ hz)]

/-- a decimal numeral (leading zeros allowed) with value n -/
def Numeral (cs : List Char) (n : Nat) : Prop := allDigits cs = true ∧ atoi cs = n

theorem allDigits_mem {cs : List Char} (h : allDigits cs = true) : ∀ c ∈ cs, isDigit c = true := by
  unfold allDigits at h
  simp only [Bool.and_eq_true, List.all_eq_true] at h
  exact h.2

theorem allDigits_not_mem {cs : List Char} (h : allDigits cs = true) (x : Char) (hx : isDigit x = false) : x ∉ cs := by
  intro hm
  have := allDigits_mem h x hm
  rw [hx] at this; cases this

theorem parseInt_iff {cs : List Char} {lo hi n : Nat} :
    parseInt cs lo hi = some n ↔ Numeral cs n ∧ lo ≤ n ∧ n ≤ hi := by
  unfold Numeral
  fun_cases parseInt cs lo hi <;> simp [*] <;> omega

theorem numeral_single {c lo hi : Char} {n : Nat} (h : Numeral [c] n) (h1 : lo ≤ c) (h2 : c ≤ hi) :
    c = digitChar n ∧ lo.toNat - 48 ≤ n ∧ n ≤ hi.toNat - 48 := by
  obtain ⟨hd, rfl⟩ := h
  obtain ⟨d1, d2⟩ := digit_toNat (allDigits_mem hd c List.mem_cons_self)
  have e : atoi [c] = c.toNat - 48 := by simp [atoi]
  have t1 := char_le_toNat h1
  have t2 := char_le_toNat h2
  refine ⟨?_, by omega, by omega⟩
  rw [e, digitChar, show 48 + (c.toNat - 48) = c.toNat by omega, Char.ofNat_toNat]

theorem numeral_digit {d : Nat} (h : d < 10) : Numeral [digitChar d] d := by
  obtain ⟨h1, h2⟩ := digitChar_spec d h
  simp [Numeral, allDigits, atoi, h1, h2]

theorem numeral_snoc {cs : List Char} {n d : Nat} (h : Numeral cs n) (hd : d < 10) :
    Numeral (cs ++ [digitChar d]) (n * 10 + d) := by
  obtain ⟨h1, h2⟩ := digitChar_spec d hd
  obtain ⟨ha, rfl⟩ := h
  unfold allDigits at ha
  simp only [Bool.and_eq_true, Bool.not_eq_true'] at ha
  simp [Numeral, allDigits, atoi, h1, h2, ha.2]

theorem digitsAux_numeral (f n : Nat) (acc : List Char) (hf : n < f) :
    ∃ ds, digitsAux f n acc = ds ++ acc ∧ Numeral ds n := by
  induction f generalizing n acc with
  | zero => omega
  | succ f ih =>
    simp only [digitsAux]
    split
    · rename_i h10
      exact ⟨[digitChar (n % 10)], rfl, by rw [Nat.mod_eq_of_lt h10]; exact numeral_digit h10⟩
    · obtain ⟨ds, e, hn⟩ := ih (n / 10) (digitChar (n % 10) :: acc) (by omega)
      refine ⟨ds ++ [digitChar (n % 10)], by simp [e], ?_⟩
      have := numeral_snoc hn (Nat.mod_lt n (by omega : 0 < 10))
      rwa [Nat.div_add_mod'] at this

theorem numeral_digits (n : Nat) : Numeral (digits n) n := by
  obtain ⟨ds, e, hn⟩ := digitsAux_numeral (n + 1) n [] (by omega)
  rw [digits, e, List.append_nil]; exact hn

theorem digits_small (n : Nat) (h : n < 10) : digits n = [digitChar n] := by
  unfold digits
  simp only [digitsAux, h, if_true]
  rw [Nat.mod_eq_of_lt h]

end ErgoVerif.Cron
