import ErgoVerif.Model.Event
namespace ErgoVerif.Event

theorem runOps_inv {P : Ev → Prop} {dc dd : Bool} (hstep : ∀ e o, P e → P (step dc dd e o).1) :
    ∀ (ops : List Op) {e : Ev}, P e → P (runOps dc dd e ops)
  | [], _, h => h
  | o :: os, e, h => runOps_inv hstep os (hstep e o h)

/-- every way an operation can change the state: a refused call leaves it as it is -/
theorem step_cases {P : Ev → Prop} (dc dd : Bool) (e : Ev) (o : Op) (same : P e)
    (reg : ∀ tok n cap, P { Ev.init with registered := true, token := tok, notify := n, cap := cap })
    (unreg : P Ev.init)
    (pub : ∀ m, P { e with last := pushLast e.cap e.last m, published := e.published ++ [m] })
    (sub : ∀ r, r ∉ e.subs → P { e with subs := e.subs ++ [r], counter := e.counter + 1 })
    (unsub : ∀ r, r ∈ e.subs → P { e with subs := e.subs.erase r, counter := e.counter - 1 })
    (dies : ∀ c, P { e with subs := e.subs.filter (fun s => s.1 ≠ c),
                            counter := if dc then e.counter - (e.subs.filter (fun s => s.1 = c)).length else e.counter }) :
    P (step dc dd e o).1 := by
  fun_cases step dc dd e o
  · exact same
  · exact reg ..
  · exact same
  · exact same
  · exact pub _
  · exact same
  · exact same
  · exact sub _ ‹_›
  · exact same
  · exact same
  · exact unsub _ (Decidable.of_not_not ‹_›)
  · next h => simp only [if_pos h] at dies; exact dies _
  · next h => simp only [if_neg h] at dies; exact dies _
  · exact same
  · exact unreg

theorem sub_subscribed {dc dd : Bool} {e : Ev} {c : Nat} {mon : Bool} {snap : List Nat} {note : Option Note}
    (h : (step dc dd e (.sub c mon)).2 = .subscribed snap note) :
    snap = e.last ∧ note = if e.notify && e.counter + 1 == 1 then some .start else none := by
  revert h
  fun_cases step dc dd e (.sub c mon) <;> intro h <;> cases h
  exact ⟨rfl, rfl⟩

/-- `true`: with the decrement on the termination path (`dc`) -/
theorem step_counter (dd : Bool) (e : Ev) (o : Op) (h : e.counter = e.live) :
    (step true dd e o).1.counter = (step true dd e o).1.live := by
  simp only [Ev.live] at h
  refine step_cases (P := fun e' => e'.counter = e'.live) true dd e o h ?_ rfl ?_ ?_ ?_ ?_ <;> simp only [Ev.live]
  · intro _ _ _; rfl
  · intro _; exact h
  · intro r _; simp only [List.length_append, List.length_singleton]; omega
  · intro r hr
    have := List.length_pos_of_mem hr
    simp only [List.length_erase_of_mem hr]; omega
  · intro c
    -- the relations split into those of `c`, dropped and counted down, and the others, which stay
    have := List.length_eq_countP_add_countP (fun s : Nat × Bool => decide (s.1 = c)) (l := e.subs)
    simp only [List.countP_eq_length_filter, decide_eq_true_eq, decide_not] at this
    simp only [ne_eq, decide_not, if_true]
    omega

/-- the replay queue `last` holds the latest `cap` of the publications `pub`, all of them while there are fewer (the last
three clauses of `Props.C18.Inv`; what a new subscriber is handed) -/
def Replay (cap : Nat) (last pub : List Nat) : Prop :=
  last.length ≤ cap ∧ (∃ pre, pub = pre ++ last) ∧ (last.length < cap → last = pub)

theorem Replay.push {cap : Nat} {last pub : List Nat} (h : Replay cap last pub) (m : Nat) :
    Replay cap (pushLast cap last m) (pub ++ [m]) := by
  obtain ⟨h1, ⟨pre, rfl⟩, h3⟩ := h
  unfold pushLast
  split
  · rename_i hc; subst hc; exact ⟨Nat.le_refl _, ⟨_, (List.append_nil _).symm⟩, nofun⟩
  · split
    · -- full: the oldest element goes, so the prefix grows by it
      have hl : last.length = cap := by omega
      have hlen : (last.drop 1 ++ [m]).length = cap := by simp; omega
      refine ⟨Nat.le_of_eq hlen, ⟨pre ++ last.take 1, ?_⟩, fun hlt => absurd hlen (Nat.ne_of_lt hlt)⟩
      rw [List.append_assoc pre, List.append_assoc pre, ← List.append_assoc (last.take 1), List.take_append_drop]
    · have hl : last.length < cap := by omega
      exact ⟨by simp; omega, ⟨pre, by simp⟩, fun _ => by rw [← h3 hl]⟩

/-- `seen` is the `delivered` set of the fan-out loop -/
theorem count_dedupAux (c : Nat) (l seen : List Nat) :
    (dedupAux seen l).count c = if c ∈ seen then 0 else if c ∈ l then 1 else 0 := by
  fun_induction dedupAux seen l <;> grind

theorem count_fanout (dd : Bool) (c : Nat) (l : List Nat) :
    (fanout dd l).count c = if dd then (if c ∈ l then 1 else 0) else l.count c := by
  unfold fanout
  cases dd
  · simp
  · simp [count_dedupAux]

end ErgoVerif.Event
