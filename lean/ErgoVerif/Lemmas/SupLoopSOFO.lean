import ErgoVerif.Lemmas.SupLoop
import ErgoVerif.Lemmas.SupStep
import ErgoVerif.Lemmas.SupSlice
/-
Closed-system invariant of the simple-one-for-one supervisor: the machine's table `pids` (in normal operation) and
its wait set (while shutting down) follow `Supervisor.children`; the supervisor terminates only when the table is
empty and never hangs.  At the end: once `shutdown` is set it stays set and the recorded reason is final (`step_stable`).
-/
namespace ErgoVerif.Sup

theorem SOFO.childStarted_res (s : SOFO) (cs : ChildSpec) (pid : Nat) : (s.childStarted cs pid).2 = .ok {} := by
  fun_cases SOFO.childStarted s cs pid <;> rfl

theorem SOFO.childStarted_fields (m : SOFO) (cs : ChildSpec) (np : Nat) :
    ((m.childStarted cs np).1.shutdown, (m.childStarted cs np).1.shutdownReason) = (m.shutdown, m.shutdownReason) := by
  fun_cases SOFO.childStarted m cs np <;> rfl

/-- the machine part of the invariant, relative to `Supervisor.children` -/
structure SOFO.MInv (m : SOFO) (kids : List (Nat × Nat)) : Prop where
  normal : m.shutdown = false → (∀ p, p ∈ keys m.pids ↔ p ∈ keys kids) ∧ (∀ p, p ∈ m.wait → p ∈ keys kids)
  shut : m.shutdown = true → (∀ p, p ∈ m.wait ↔ p ∈ keys kids) ∧ m.shutdownReason ≠ none

/-- a supervisor that is shutting down has someone to wait for: it cannot hang -/
def SOFO.Live (m : SOFO) (kids : List (Nat × Nat)) : Prop := m.shutdown = true → ∃ p, p ∈ keys kids

/-- the actions that keep the invariant: a spawn only in normal operation and for a spec of the table, an end only when
the recorded reason is the action's and the table is empty -/
def SOFO.Good (m : SOFO) (kids : List (Nat × Nat)) (a : Action) : Prop :=
  GoodAct (SOFO.Live m kids) (m.shutdown = false ∧ (findName a.spec.name m.spec).isSome)
    (fun e => m.shutdown = true ∧ m.shutdownReason = some e ∧ ∀ p, p ∉ keys kids) a

structure SOFO.Inv (c : Loop SOFO) : Prop where
  glue : Glue c
  minv : SOFO.MInv c.m c.kids
  term : ∀ r, c.status = .terminated r → c.m.shutdown = true ∧ c.m.shutdownReason = some r ∧ ∀ p, p ∉ keys c.kids
  sane : c.status ≠ .panicked ∧ c.status ≠ .stuck
  live : c.status = .running → SOFO.Live c.m c.kids

theorem SOFO.minv_started (m : SOFO) (kids : List (Nat × Nat)) (cs : ChildSpec) (np : Nat)
    (h : SOFO.MInv m kids) (hsd : m.shutdown = false) (hf : (findName cs.name m.spec).isSome) :
    SOFO.MInv (m.childStarted cs np).1 ((np, cs.name) :: kids) ∧ (m.childStarted cs np).1.shutdown = false := by
  unfold SOFO.childStarted
  simp only [hsd, Bool.false_eq_true, if_false]
  cases hfn : findName cs.name m.spec with
  | none => simp [hfn] at hf
  | some sp =>
    simp only
    refine ⟨⟨?_, ?_⟩, trivial⟩
    · intro _
      have ⟨h1, h2⟩ := h.normal hsd
      constructor
      · intro p
        simp only [mem_keys_append, mem_keys_filter_ne, mem_keys_cons, h1 p]
        by_cases hp : p = np <;> simp [hp, keys]
      · intro p hp
        rw [mem_keys_cons]; exact Or.inr (h2 p hp)
    · intro hs; simp at hs

/-- what the closed system needs of the answer `r` to a method (`api`: a management call) -/
def SOFO.Answer (kids : List (Nat × Nat)) (api : Bool) (r : SOFO × Res) : Prop :=
  SOFO.MInv r.1 kids ∧ r.2.Good fun a => SOFO.Good r.1 kids a ∧ (api = true → ApiOK a)

/-- the exit of `pid` is noticed: it leaves `Supervisor.children`, the machine's table and its wait set together -/
theorem SOFO.MInv.noticed {m : SOFO} {kids : List (Nat × Nat)} (h : SOFO.MInv m kids) (pid : Nat) :
    SOFO.MInv { m with pids := m.pids.filter (·.1 ≠ pid), wait := sdel pid m.wait } (kids.filter (fun x => x.1 ≠ pid)) :=
  ⟨fun hsd => ⟨fun p => by simp only [mem_keys_filter_ne, (h.normal hsd).1 p], fun p hx =>
      (mem_keys_filter_ne _ _ _).mpr ⟨(h.normal hsd).2 p ((mem_sdel _ _ _).mp hx).1, ((mem_sdel _ _ _).mp hx).2⟩⟩,
    fun hsd => ⟨wait_step (h.shut hsd).1 pid, (h.shut hsd).2⟩⟩

theorem SOFO.childSpec_cases (m : SOFO) (name : Nat) :
    m.childSpec name = (m, .ok {}) ∨ (∃ e, m.childSpec name = (m, .err e)) ∨
    (∃ c, m.childSpec name = (m, .ok { act := .start, spec := c }) ∧ findName name m.spec = some c ∧ m.shutdown = false) := by
  fun_cases SOFO.childSpec m name
  · exact .inl rfl
  · exact .inr (.inl ⟨_, rfl⟩)
  · exact .inr (.inl ⟨_, rfl⟩)
  case case4 hsd c hf _ => exact .inr (.inr ⟨c, rfl, hf, by simpa using hsd⟩)

theorem SOFO.Answer.nothing {m : SOFO} {kids : List (Nat × Nat)} {api : Bool} {a : Action} (h : SOFO.MInv m kids)
    (hl : SOFO.Live m kids) (ha : a.act = .nothing) : SOFO.Answer kids api (m, .ok a) :=
  ⟨h, by simp only [SOFO.Good, GoodAct, ha]; exact hl, fun _ => by simp [ApiOK, ha]⟩

theorem SOFO.Answer.refused {m : SOFO} {kids : List (Nat × Nat)} (e : Err) (h : SOFO.MInv m kids) (hl : SOFO.Live m kids) :
    SOFO.Answer kids true (m, .err e) :=
  SOFO.Answer.nothing (a := {}) h hl rfl

theorem SOFO.Answer.start {m : SOFO} {kids : List (Nat × Nat)} {api : Bool} {a : Action} (h : SOFO.MInv m kids)
    (hsd : m.shutdown = false) (ha : a.act = .start) (hf : (findName a.spec.name m.spec).isSome) :
    SOFO.Answer kids api (m, .ok a) :=
  ⟨h, by simp only [SOFO.Good, GoodAct, ha]; exact ⟨hsd, hf⟩, fun _ => by simp [ApiOK, ha]⟩

theorem SOFO.stopAll_good (s : SOFO) (kids : List (Nat × Nat)) (r : Reason) (h : SOFO.MInv s kids)
    (hsd : s.shutdown = false) : SOFO.Answer kids false (SOFO.stopAll s r) := by
  have ⟨hp, hw⟩ := h.normal hsd
  have hwk : ∀ p, p ∈ (SOFO.stopAll s r).1.wait ↔ p ∈ keys kids := by
    intro p
    show p ∈ (keys s.pids).foldl (fun w p => sins p w) s.wait ↔ _
    rw [mem_foldl_sins, hp p]
    exact ⟨fun h => h.elim (hw p) id, Or.inr⟩
  refine ⟨⟨fun hx => by simp [SOFO.stopAll] at hx, fun _ => ⟨hwk, by simp [SOFO.stopAll]⟩⟩, ?_, fun h => nomatch h⟩
  simp only [SOFO.stopAll, SOFO.Good]
  exact GoodAct.stop hp (fun h _ => h) (fun h => ⟨trivial, rfl, h⟩)

theorem SOFO.ct_good (m : SOFO) (kids : List (Nat × Nat)) (name pid : Nat) (r : Reason) (now : Int)
    (h : SOFO.MInv m kids) :
    SOFO.Answer (kids.filter (fun x => x.1 ≠ pid)) false (m.childTerminated name pid r now) := by
  have h1 := h.noticed pid
  cases hsd : m.shutdown with
  | true =>
    -- already shutting down: terminate exactly when nobody is waited for any more
    rw [SOFO.childTerminated_shut m name pid r now hsd]
    refine ⟨h1, ?_, fun h => nomatch h⟩
    simp only [SOFO.Good]
    exact GoodAct.waiting (h1.shut hsd).1 (h1.shut hsd).2 (fun h _ => h) (fun e he h => ⟨hsd, he, h⟩)
  | false =>
    -- the branches in the order of the text: shutting down (1, 2), unknown name (3), nothing to do (4, 5), restart (6),
    -- restarts exceeded (7)
    fun_cases SOFO.childTerminated m name pid r now
    case case1 hx _ | case2 hx _ => exact Bool.noConfusion (hsd.symm.trans hx)
    case case3 => exact SOFO.stopAll_good _ _ r h1 hsd
    case case4 | case5 => exact .nothing h1 (fun hx => nomatch hsd.symm.trans hx) rfl
    case case6 c hf _ _ _ _ _ _ =>
      -- the restart history is no field the invariant reads: its two clauses hold of the new state as they are
      exact .start ⟨h1.normal, h1.shut⟩ hsd rfl (by rw [(findName_mem _ _ _ hf).2, hf]; rfl)
    case case7 s' _ => exact SOFO.stopAll_good s' _ .restartsExceeded ⟨h1.normal, h1.shut⟩ hsd

theorem SOFO.childSpec_good (m : SOFO) (kids : List (Nat × Nat)) (name args : Nat) (h : SOFO.MInv m kids)
    (hl : SOFO.Live m kids) : SOFO.Answer kids true (withArgs args (m.childSpec name)) := by
  rcases SOFO.childSpec_cases m name with h1 | ⟨e, h1⟩ | ⟨c, h1, hf, hsd⟩
  · rw [h1, withArgs_ok]; exact .nothing h hl rfl
  · rw [h1]; exact .refused e h hl
  · rw [h1, withArgs_ok]; exact .start h hsd rfl (by rw [(findName_mem _ _ _ hf).2, hf]; rfl)

theorem SOFO.childAddSpec_good (m : SOFO) (kids : List (Nat × Nat)) (name : Nat) (sig : Bool) (h : SOFO.MInv m kids)
    (hl : SOFO.Live m kids) : SOFO.Answer kids true (m.childAddSpec name sig) := by
  fun_cases SOFO.childAddSpec m name sig
  case case4 => exact .nothing ⟨h.normal, h.shut⟩ hl rfl
  all_goals exact .refused _ h hl

theorem SOFO.childEnable_good (m : SOFO) (kids : List (Nat × Nat)) (name : Nat) (h : SOFO.MInv m kids)
    (hl : SOFO.Live m kids) : SOFO.Answer kids true (m.childEnable name) := by
  fun_cases SOFO.childEnable m name
  case case3 => exact .nothing ⟨h.normal, h.shut⟩ hl rfl
  all_goals exact .refused _ h hl

theorem SOFO.minv_wait_ext {m m' : SOFO} {kids : List (Nat × Nat)} (h : SOFO.MInv m kids) (hsd : m.shutdown = false)
    (h1 : m'.pids = m.pids) (h3 : m'.shutdown = m.shutdown)
    (hw : ∀ p, p ∈ m'.wait → p ∈ m.wait ∨ p ∈ keys m.pids) : SOFO.MInv m' kids := by
  have ⟨ha, hb⟩ := h.normal hsd
  constructor
  · intro _
    rw [h1]
    refine ⟨ha, ?_⟩
    intro p hp
    rcases hw p hp with hx | hx
    · exact hb p hx
    · exact (ha p).mp hx
  · intro hx; rw [h3, hsd] at hx; simp at hx

theorem SOFO.childDisable_good (m : SOFO) (kids : List (Nat × Nat)) (name : Nat) (h : SOFO.MInv m kids)
    (hl : SOFO.Live m kids) : SOFO.Answer kids true (m.childDisable name) := by
  -- whoever is newly waited for is a child of the table
  have hsub : ∀ p, p ∈ ((m.pids.filter (fun p => p.2 = name)).map (fun p => p.1)).foldl (fun w p => sins p w) m.wait →
      p ∈ m.wait ∨ p ∈ keys m.pids := fun p hp => by
    rcases (mem_foldl_sins ..).mp hp with hp | hp
    · exact .inl hp
    · obtain ⟨x, hx, hxp⟩ := List.mem_map.mp hp
      exact .inr ((mem_keys _ _).mpr ⟨x.2, hxp ▸ (List.mem_filter.mp hx).1⟩)
  fun_cases SOFO.childDisable m name
  case case1 | case2 => exact .refused _ h hl
  case case3 hsd _ _ _ t s2 hlen =>
    have hsd' : m.shutdown = false := by simpa using hsd
    have hne : t.isEmpty = false := List.isEmpty_eq_false_iff.mpr (List.ne_nil_of_length_pos hlen)
    exact ⟨SOFO.minv_wait_ext h hsd' rfl rfl hsub, ⟨fun he => absurd he (by simp [hne]), fun _ hx => absurd hx hsd⟩,
      fun _ => ⟨by simp, fun _ => hne⟩⟩
  case case4 hsd _ _ _ t s2 hlen =>
    exact .nothing (SOFO.minv_wait_ext h (by simpa using hsd) rfl rfl hsub) (fun hx => absurd hx hsd) rfl

theorem SOFO.chain (api : Bool) (c : Loop SOFO) (a : Action) (h : SOFO.Answer c.kids api (c.m, .ok a))
    (ha : a.act = .start) :
    ∃ a', (sofoMachine.childStarted c.m a.spec c.nextPid).2 = .ok a' ∧
      SOFO.Answer (spawn sofoMachine c a).kids api ((spawn sofoMachine c a).m, .ok a') ∧
      (if a'.act = .start then 1 else 0) < (if a.act = .start then 1 else 0) := by
  have hg : c.m.shutdown = false ∧ (findName a.spec.name c.m.spec).isSome := by
    have := h.2.1; simp only [SOFO.Good, GoodAct, ha] at this; exact this
  have h1 := SOFO.minv_started c.m c.kids a.spec c.nextPid h.1 hg.1 hg.2
  exact ⟨{}, SOFO.childStarted_res _ _ _, .nothing h1.1 (fun hx => nomatch h1.2.symm.trans hx) rfl, by simp [ha]⟩

theorem SOFO.afterCall_inv (fuel : Nat) (fromApi : Bool) (bits : List Bool) (c : Loop SOFO) (r : SOFO × Res)
    (hg : Glue c) (hst : c.status = .running) (ha : SOFO.Answer c.kids fromApi r) (hfuel : 1 < fuel) :
    SOFO.Inv (afterCall sofoMachine fuel fromApi bits c r) := by
  have hG := (Glue.ghost sofoMachine).afterCall fuel fromApi bits c r hg
  obtain ⟨c', a', ⟨hM, hgd, hap⟩, hs, he⟩ := afterCall_ends sofoMachine _ (fun _ a => if a.act = .start then 1 else 0)
    (SOFO.chain fromApi) fuel fromApi bits c ha.2 (fun _ h => ⟨ha.1, h⟩)
    (fun _ => by show (if _ then 1 else 0) < fuel; split <;> omega)
  obtain ⟨es, st, hfin, hlive, hdone, hsane⟩ := finish_conclude fromApi c' a' (hs.trans hst) hgd
    (fun hs hx => by rw [hs.1] at hx; simp at hx) (fun h => Or.inl (hap h))
  rw [he, hfin] at hG ⊢
  exact ⟨hG, hM, hdone, hsane, hlive⟩

theorem SOFO.call_good {c c0 : Loop SOFO} {l : Label} {api : Bool} {bits : List Bool} {r : SOFO × Res}
    (hc : Call sofoMachine c l api bits c0 r) (hg : Glue c) (hm : SOFO.MInv c.m c.kids) (hl : SOFO.Live c.m c.kids) :
    SOFO.Answer c0.kids api r := by
  cases hc with
  | deliver hr => exact SOFO.ct_good _ _ _ _ _ _ hm
  | @foreign r now _ =>
    -- the pid of a foreign exit is fresh: nothing leaves the table
    have := SOFO.ct_good c.m c.kids 0 c.nextPid r now hm
    rwa [filter_fresh c.kids c.nextPid hg.fresh] at this
  | startChild => exact SOFO.childSpec_good _ _ _ _ hm hl
  | addChild => exact SOFO.childAddSpec_good _ _ _ _ hm hl
  | enable => exact SOFO.childEnable_good _ _ _ hm hl
  | disable => exact SOFO.childDisable_good _ _ _ hm hl

theorem SOFO.step_inv (n : Nat) (c c' : Loop SOFO) (l : Label) (h : SOFO.Inv c)
    (hs : step sofoMachine (n + 2) c l = some c') : SOFO.Inv c' := by
  obtain ⟨hst, ⟨pid, r, rfl, hpa, rfl⟩ | ⟨api, bits, c0, r, hc, rfl⟩⟩ := step_cases hs
  · exact ⟨(Glue.ghost sofoMachine).die c pid r hpa h.glue, h.minv, h.term, h.sane, h.live⟩
  · exact SOFO.afterCall_inv _ api bits c0 r ((Glue.ghost _).call hc h.glue) (hc.status_eq.trans hst)
      (SOFO.call_good hc h.glue h.minv (h.live hst)) (by omega)

theorem SOFO.boot_inv (sp : SupSpec) : SOFO.Inv (sofoBoot sp) := by
  unfold sofoBoot boot
  apply SOFO.afterCall_inv 3 false [] { m := (SOFO.init {} sp).1 } (SOFO.init {} sp)
  · constructor <;> simp [keys]
  · rfl
  · exact .nothing (by constructor <;> simp [keys]) (fun hx => nomatch hx) rfl
  · decide

theorem SOFO.reach_inv {sp : SupSpec} {c : Loop SOFO} (h : ∃ ls, run sofoStep (sofoBoot sp) ls = some c) : SOFO.Inv c := by
  obtain ⟨ls, hr⟩ := h
  exact run_inv (Inv := SOFO.Inv) (fun s a s' hi hs => SOFO.step_inv 1 s s' a hi hs) (SOFO.boot_inv sp) hr

theorem SOFO.call_stable {c c0 : Loop SOFO} {l : Label} {api : Bool} {bits : List Bool} {r : SOFO × Res}
    (hc : Call sofoMachine c l api bits c0 r) (h : c.m.shutdown = true) :
    (r.1.shutdown, r.1.shutdownReason) = (c.m.shutdown, c.m.shutdownReason) := by
  cases hc with
  | deliver hr => simp only [sofoMachine, SOFO.childTerminated_shut _ _ _ _ _ h]
  | foreign => simp only [sofoMachine, SOFO.childTerminated_shut _ _ _ _ _ h]
  | startChild => simp [sofoMachine, SOFO.childSpec, withArgs, h]
  | addChild => simp [sofoMachine, SOFO.childAddSpec, h]
  | enable => simp [sofoMachine, SOFO.childEnable, h]
  | disable => simp [sofoMachine, SOFO.childDisable, h]

theorem SOFO.step_stable (c : Loop SOFO) (l : Label) (c' : Loop SOFO) (hs : sofoStep c l = some c')
    (h : c.m.shutdown = true) : c'.m.shutdown = true ∧ c'.m.shutdownReason = c.m.shutdownReason := by
  have := step_m sofoMachine (fun m => (m.shutdown, m.shutdownReason)) SOFO.childStarted_fields hs
    (fun hc => SOFO.call_stable hc h)
  exact ⟨(congrArg Prod.fst this).trans h, congrArg Prod.snd this⟩

end ErgoVerif.Sup
