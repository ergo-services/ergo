import ErgoVerif.Model.SupCommon
/- the `for _, cs := range s.spec` loop at the head of OFO/ARFO childTerminated, characterised -/
namespace ErgoVerif.Sup

def hit (name pid : Nat) (c : ChildSpec) : Bool := c.name == name || c.pid == pid

theorem hit_iff {name pid : Nat} {c : ChildSpec} : hit name pid c = true ↔ c.name = name ∨ c.pid = pid := by
  simp only [hit, Bool.or_eq_true, beq_iff_eq]

theorem hit_false {name pid : Nat} {c : ChildSpec} : hit name pid c = false ↔ c.name ≠ name ∧ c.pid ≠ pid := by
  simp only [hit, Bool.or_eq_false_iff, beq_eq_false_iff_ne]

theorem scan_cons (name pid k : Nat) (c : ChildSpec) (cs : List ChildSpec) :
    scan name pid k (c :: cs) =
      if hit name pid c then
        { spec := { c with pid := 0 } :: (scan name pid (k + 1) cs).spec,
          found := (scan name pid (k + 1) cs).found.or (some (k, { c with pid := 0 })),
          running := (scan name pid (k + 1) cs).running }
      else
        { spec := c :: (scan name pid (k + 1) cs).spec,
          found := (scan name pid (k + 1) cs).found,
          running := if c.pid = 0 then (scan name pid (k + 1) cs).running
                     else c.pid :: (scan name pid (k + 1) cs).running } := by
  simp only [scan, hit, Bool.or_eq_true, beq_iff_eq]
  split
  · cases (scan name pid (k + 1) cs).found <;> rfl
  · split <;> rfl

theorem scan_spec_eq (name pid : Nat) (k : Nat) (l : List ChildSpec) :
    (scan name pid k l).spec = l.map (fun c => if hit name pid c then { c with pid := 0 } else c) := by
  induction l generalizing k with
  | nil => rfl
  | cons c t ih => rw [scan_cons, List.map_cons, ← ih (k + 1)]; split <;> rfl

/-- runningChildren: the pids of the other specs that have one, in spec order -/
theorem scan_running_eq (name pid : Nat) (k : Nat) (l : List ChildSpec) :
    (scan name pid k l).running = (l.filter (fun c => !hit name pid c && c.pid != 0)).map (·.pid) := by
  induction l generalizing k with
  | nil => rfl
  | cons c t ih =>
    rw [scan_cons, List.filter_cons]
    by_cases hh : hit name pid c <;> by_cases hp : c.pid = 0 <;> simp [hh, hp, ih]

/-- `found` is the LAST spec the exit hits, with its position and its pid cleared -/
theorem scan_found_eq (name pid k : Nat) (l : List ChildSpec) :
    (scan name pid k l).found =
      ((l.zipIdx k).reverse.find? (fun x => hit name pid x.1)).map (fun x => (x.2, { x.1 with pid := 0 })) := by
  induction l generalizing k with
  | nil => rfl
  | cons c t ih =>
    rw [scan_cons, List.zipIdx_cons, List.reverse_cons, List.find?_append, Option.map_or, ← ih (k + 1)]
    cases hh : hit name pid c <;> simp [hh]

theorem scan_found_none (name pid : Nat) (k : Nat) (l : List ChildSpec)
    (h : (scan name pid k l).found = none) : ∀ c ∈ l, hit name pid c = false := by
  rw [scan_found_eq, Option.map_eq_none_iff, List.find?_eq_none] at h
  intro c hc
  obtain ⟨i, hi⟩ := List.mem_iff_getElem?.mp hc
  simpa using h (c, k + i)
    (List.mem_reverse.mpr (List.mem_zipIdx_iff_le_and_getElem?_sub.mpr ⟨Nat.le_add_right .., by simpa using hi⟩))

theorem scan_found_some (name pid : Nat) (k : Nat) (l : List ChildSpec) (j : Nat) (c : ChildSpec)
    (h : (scan name pid k l).found = some (j, c)) :
    k ≤ j ∧ ∃ c0, l[j - k]? = some c0 ∧ hit name pid c0 = true ∧ c = { c0 with pid := 0 } := by
  rw [scan_found_eq] at h
  obtain ⟨⟨c0, j'⟩, hf, he⟩ := Option.map_eq_some_iff.mp h
  cases he
  have hm := List.mem_zipIdx_iff_le_and_getElem?_sub.mp (List.mem_reverse.mp (List.mem_of_find?_eq_some hf))
  exact ⟨hm.1, c0, hm.2, List.find?_some (p := fun x : ChildSpec × Nat => hit name pid x.1) hf, rfl⟩

end ErgoVerif.Sup
