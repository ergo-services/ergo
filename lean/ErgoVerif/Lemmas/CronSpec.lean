/-
Compiler and matcher together: IsRunAt on the compiled masks of a valid field, and of a valid spec, is the denotation;
the masks of a valid field are well-formed (`compileField_wellformed`).
-/
import ErgoVerif.Lemmas.CronMatch
namespace ErgoVerif.Cron

theorem fieldBits_runs (k : Kind) (items : List Item) (hv : ∀ it ∈ items, it.valid k = true) (c : Civil) (hc : c.wf) :
    maskIsRunAt (fieldBits k items) c = items.any (Item.numDenote k (k.value c)) := by
  rw [(mask_of_type k _ (fieldBits_type k items hv)).1 c, fieldBits_testBit k items hv,
    k.mask_testBit_low (k.value_le c hc), Bool.false_or]

theorem valid_and_numeric (k : Kind) (hk : k.isAnd = true) (it : Item) (hv : it.valid k = true) : it.specialMask = none := by
  -- `L`, `wL`, `w#n` are options of the day and weekday fields only
  cases it with
  | last => rw [Item.valid_iff.mp hv] at hk; cases hk
  | lastW w => rw [(Item.valid_iff.mp hv).1] at hk; cases hk
  | nth w n => rw [(Item.valid_iff.mp hv).1] at hk; cases hk
  | _ => rfl

/-- matched one by one, the masks of a field are its denotation; the empty result[0] the compiler drops matches nothing -/
theorem compileField_any (k : Kind) (items : List Item) (hv : ∀ it ∈ items, it.valid k = true) (c : Civil) (hc : c.wf) :
    (compileField k (.list items)).any (maskIsRunAt · c) = items.any (Item.denote k c) := by
  rw [any_split k items hv c, compileField_list k items hv, List.any_append, ← fieldBits_runs k items hv c hc]
  congr 1
  split
  · rename_i h
    -- the dropped mask is the one that no option at all would leave
    exact h ▸ (fieldBits_runs k [] (fun _ h => nomatch h) c hc).symm
  · simp

theorem compileField_and (k : Kind) (hk : k.isAnd = true) (f : Field) (hv : f.valid k = true) (c : Civil) (hc : c.wf)
    (rest : List Nat) (run : Bool) :
    listLoop c (compileField k f ++ rest) run = (f.denote k c && listLoop c rest run) := by
  cases f with
  | star => simp [compileField, Field.denote]
  | list items =>
    obtain ⟨hne, hv⟩ := Field.valid_list.mp hv
    -- every option is numeric: no special masks, and result[0] stays
    have hnum : ∀ it ∈ items, it.specialMask = none := fun it hit => valid_and_numeric k hk it (hv it hit)
    obtain ⟨it, hit⟩ := List.exists_mem_of_ne_nil _ hne
    have he : compileField k (.list items) = [fieldBits k items] := by
      rw [compileField_list k items hv, if_neg (fieldBits_ne_mask k items hv hit (hnum it hit)),
        List.filterMap_eq_nil_iff.mpr hnum]
      rfl
    have hand : isAndType (fieldBits k items) = true := by
      rw [(mask_of_type k _ (fieldBits_type k items hv)).2.1, hk]
    rw [Field.denote, ← compileField_any k items hv c hc, he, List.singleton_append, listLoop_and_cons c _ rest run hand]
    simp

theorem compileField_dayish (k : Kind) (hk : k.isAnd = false) (f : Field) (hv : f.valid k = true) (c : Civil) (hc : c.wf) :
    (compileField k f = [] ↔ f.isStar = true) ∧ listIsRunAt (compileField k f) c = f.denote k c := by
  cases f with
  | star => exact ⟨by simp [compileField, Field.isStar], rfl⟩
  | list items =>
    obtain ⟨hne, hv⟩ := Field.valid_list.mp hv
    have hL := compileField_list_ne_nil k items hv hne
    refine ⟨by simp [Field.isStar, hL], ?_⟩
    rw [listIsRunAt_or c _ hL, Field.denote, compileField_any k items hv c hc]
    intro m hm
    rcases mem_compileField k items hv hm with rfl | ⟨it, hit, hs⟩
    · rw [(mask_of_type k _ (fieldBits_type k items hv)).2.1, hk]
    · exact (special_denote k it (hv it hit) m hs).2.1

/-- cronSpecMask.IsRunAt as a formula, in the shape of `Spec.denote` -/
theorem specIsRunAt_eq (m : SpecMask) (c : Civil) :
    specIsRunAt m c = (listIsRunAt m.minHourMonth c &&
      (if m.day = [] then listIsRunAt m.weekDay c
       else if m.weekDay = [] then listIsRunAt m.day c
       else listIsRunAt m.day c || listIsRunAt m.weekDay c)) := by
  have nil : listIsRunAt [] c = true := rfl
  simp only [specIsRunAt, List.length_eq_zero_iff, List.length_pos_iff]
  by_cases hd : m.day = [] <;> by_cases hw : m.weekDay = [] <;> simp [hd, hw, nil, Bool.and_comm]

theorem specIsRunAt_eq_denote (s : Spec) (hs : s.valid = true) (c : Civil) (hc : c.wf) :
    specIsRunAt (compileSpec s) c = s.denote c := by
  obtain ⟨h1, h2, h3, h4, h5⟩ := Spec.valid_iff.mp hs
  obtain ⟨d1, d2⟩ := compileField_dayish .day rfl s.day h3 c hc
  obtain ⟨w1, w2⟩ := compileField_dayish .wday rfl s.wday h5 c hc
  have hmhm : listIsRunAt (compileSpec s).minHourMonth c =
      (s.minute.denote .minute c && s.hour.denote .hour c && s.month.denote .month c) := by
    have := compileField_and .month rfl _ h4 c hc [] true
    rw [List.append_nil] at this
    simp only [compileSpec, listIsRunAt]
    rw [List.append_assoc, compileField_and .minute rfl _ h1 c hc, compileField_and .hour rfl _ h2 c hc, this]
    simp [listLoop, Bool.and_assoc]
  rw [specIsRunAt_eq, hmhm]
  simp only [compileSpec, d1, d2, w1, w2, Spec.denote]

/-- every mask the compiler produces for a valid field has a known type (cronMask.IsRunAt never reaches its
    panicking `default:`) and fits in 64 bits (so the model's `Nat` operations are Go's uint64 operations) -/
theorem compileField_wellformed (k : Kind) (f : Field) (hv : f.valid k = true) :
    ∀ m ∈ compileField k f, maskKnown m = true ∧ m < 2 ^ 64 := by
  cases f with
  | star => intro m hm; simp [compileField] at hm
  | list items =>
    obtain ⟨_, hv⟩ := Field.valid_list.mp hv
    intro m hm
    rcases mem_compileField k items hv hm with rfl | ⟨it, hit, hs⟩
    · exact ⟨(mask_of_type k _ (fieldBits_type k items hv)).2.2, fieldBits_lt k items hv⟩
    · exact (special_denote k it (hv it hit) m hs).2.2

end ErgoVerif.Cron
