import ErgoVerif.Lemmas.EdfEnc
import ErgoVerif.Lemmas.EdfDesc
/-! What decodes can be encoded again (`dec_reenc`). -/
namespace ErgoVerif.Edf
open ErgoVerif.Generated.Edt

/-- assumptions on the decoding side of the options: what the caches hand out can be encoded again (for `dec_reenc`;
    `DecGoodOK`, with the same field names, is the one that goes with `Side` and `dec_good`) -/
structure DecSideOK (o : Opts) : Prop where
  atomInline : ∀ a : Bytes, a.length ≤ 255 → (o.dmap a).length ≤ 255
  atomCached : ∀ id a, o.atomOf id = some a → (o.dmap a).length ≤ 255
  err : ∀ id e, o.errOf id = some e → (∃ s, e = .errText s ∧ s.length ≤ 32767) ∨
          (∃ k, e = .errSent k ∧ (encLeaf o .error (.errSent k)).isSome = true)
  reg : ∀ nm t, o.reg nm = some t → t.encodable = true ∧ t ≠ .any

theorem decLeaf_reenc (o : Opts) (hd : DecSideOK o) (t : Ty) (bs : Bytes) (v : Val) (r : Bytes) :
    decLeaf o t bs = .ok (v, r) →
    v.depth = 1 ∧ r.length ≤ bs.length ∧ ((t = .error ∧ v = .nil) ∨ (encLeaf o t v).isSome = true) := by
  have atom := fun {bs a r} => readAtom_of (P := fun a => a.length ≤ 255) (bs := bs) (a := a) (r := r) hd.atomCached hd.atomInline
  -- the ways out in the order of `decLeaf`
  fun_cases decLeaf o t bs <;> intro h <;> cases h
  -- bool, num, str, bin
  · exact ⟨rfl, by simp, .inr rfl⟩
  · have := le_of_not_lenLt ‹_›
    exact ⟨rfl, by simp, .inr (by simp [encLeaf, numCanon_length]; omega)⟩
  · obtain ⟨_, _⟩ := rd16_ok _ _ _ ‹_›
    exact ⟨rfl, by simp; omega, .inr (by simp [encLeaf, limStringEnc]; omega)⟩
  · obtain ⟨_, _⟩ := rd32_ok _ _ _ ‹_›
    exact ⟨rfl, by simp; omega, .inr (by simp [encLeaf, limBinaryEnc]; omega)⟩
  -- atom, idr, idn
  · obtain ⟨h1, h2⟩ := atom ‹_›
    exact ⟨rfl, h2, .inr (by simp [encLeaf, limAtomEnc]; omega)⟩
  · obtain ⟨h1, h2⟩ := atom ‹_›
    exact ⟨rfl, by simp; omega, .inr (by simp [encLeaf, limAtomPidEnc, Nat.not_lt_of_le h1, le_of_not_lenLt ‹_›])⟩
  · rename_i a r0 b ha hb
    obtain ⟨h1, h2⟩ := atom ha
    obtain ⟨h3, h4⟩ := atom hb
    have : ¬ a.length > 255 ∧ ¬ b.length > 255 := by omega
    exact ⟨rfl, by omega, .inr (by simp [encLeaf, limAtomPidEnc, this])⟩
  -- time
  · exact ⟨rfl, by simp; omega, .inr (by simp [encLeaf, ‹timeValid _ = true›])⟩
  -- error: the nil id, a cached id, a text
  · obtain ⟨_, _⟩ := rd16_ok _ _ _ ‹_›
    exact ⟨rfl, by omega, .inl ⟨rfl, rfl⟩⟩
  · obtain ⟨_, _⟩ := rd16_ok _ _ _ ‹_›
    rcases hd.err _ _ ‹_› with ⟨s, rfl, hs⟩ | ⟨k, rfl, hb⟩
    · exact ⟨rfl, by omega, .inr (by simp [encLeaf, limErrorEnc]; omega)⟩
    · exact ⟨rfl, by omega, .inr hb⟩
  · obtain ⟨_, _⟩ := rd16_ok _ _ _ ‹_›
    have : limErrIdDec = 32767 := rfl
    exact ⟨rfl, by simp; omega, .inr (by simp [encLeaf, limErrorEnc]; omega)⟩

theorem Unfolds.encodable {o : Opts} (hd : DecSideOK o) {t : Ty} (h : Unfolds o t) : t.encodable = true := by
  induction h with
  | tag b h => exact tagTy_of_table (P := (·.encodable = true)) (by decide) h
  | reg nm h => exact (hd.reg _ _ h).1
  | slice _ ih => exact ih
  | array hn _ _ ih => simp only [Ty.encodable, ih, limBinaryEnc, Bool.and_true]; exact decide_eq_true (by omega)
  | map _ _ _ ihk ihv => simp [Ty.encodable, ihk, ihv]

theorem checkTag_len (dt : Bool) (tag : UInt8) (bs r : Bytes) : checkTag dt tag bs = some r → r.length ≤ bs.length := by
  fun_cases checkTag dt tag bs <;> intro h <;> cases h <;> simp

abbrev EncAt (o : Opts) (t : Ty) (f : Nat) (v : Val) : Prop := v.depth ≤ f ∧ (encB o t v).isSome = true

theorem Pairs.all_enc (o : Opts) (kt vt : Ty) (f : Nat) : ∀ ps : Pairs,
    Pairs.All (fun k v => EncAt o kt f k ∧ EncAt o vt f v) ps → ps.depth ≤ f ∧ (encp o kt vt ps).isSome = true
  | .nil, _ => ⟨Nat.zero_le _, rfl⟩
  | .cons k v ps, h => by
    obtain ⟨⟨⟨k1, k2⟩, v1, v2⟩, hps⟩ := h
    obtain ⟨p1, p2⟩ := Pairs.all_enc o kt vt f ps hps
    rw [encp_isSome_cons, k2, v2, p2]
    exact ⟨by simp only [Pairs.depth]; omega, rfl⟩

/-- Depth and `r.length ≤ bs.length` ride along because the proof needs them of the elements: the depth to bound the
    fuel of the second decode, the length to hand the premise on; the premise (just under 4 GiB) is what keeps a
    marshaler payload within its 2^32 - 2 bytes -/
theorem dec_reenc (o : Opts) (hd : DecSideOK o) : ∀ (f : Nat) (dt : Bool) (t : Ty) (bs : Bytes) (v : Val) (r : Bytes),
    dec o f dt t bs = .ok (v, r) → bs.length < 4294967295 →
    v.depth ≤ f ∧ r.length ≤ bs.length ∧ (encB o t v).isSome = true
  | 0, _, _, _, _, _, h, _ => by cases h
  | f+1, dt, t, bs, v, r, h, hL => by
    have ih := dec_reenc o hd f
    have items : ∀ {e n bs' vs r}, iterV (dec o f false e) n bs' = .ok (vs, r) → bs'.length < 4294967295 →
        vs.depth ≤ f ∧ r.length ≤ bs'.length ∧ (encs o e vs).isSome = true :=
      fun {e} {_ _ _ _} => iterV_induct
        (Q := fun _ bs' vs r => bs'.length < 4294967295 → vs.depth ≤ f ∧ r.length ≤ bs'.length ∧ (encs o e vs).isSome = true)
        (fun _ _ => ⟨Nat.zero_le _, Nat.le_refl _, rfl⟩)
        (fun _ _ _ _ _ _ hv ihs hL => by
          obtain ⟨a, b, c⟩ := ih _ _ _ _ _ hv hL
          obtain ⟨a', b', c'⟩ := ihs (by omega)
          exact ⟨by simp only [Vals.depth]; omega, by omega, by rw [encs_isSome_cons, c, c']; rfl⟩) _ _ _ _
    cases dec_ok h with
    | anyNil hg =>
      have := (getDecoder_ok hg).2
      exact ⟨by simp [Val.depth], by omega, rfl⟩
    | anyFlat hg hv hc =>
      have hlt := (getDecoder_ok hg).2
      obtain ⟨a, b, c⟩ := ih _ _ _ _ _ hv (by omega)
      rcases hc with ⟨rfl, rfl⟩ | ⟨rfl, rfl, rfl⟩
      · exact ⟨by omega, by omega, c⟩
      · exact ⟨by simp [Val.depth], by omega, rfl⟩
    | anyVal hg hv hany hnn =>
      obtain ⟨hu, hlt⟩ := getDecoder_ok hg
      have henc := (hu _ rfl).encodable hd
      obtain ⟨a, b, c⟩ := ih _ _ _ _ _ hv (by omega)
      exact ⟨by simp only [Val.depth]; omega, by omega, encB_any o _ _ ▸ (encode_isSome_iff ..).2 ⟨henc, hany, hnn, c⟩⟩
    | nilSeq ht | nilMap ht => exact ⟨by simp [Val.depth], by simp, by cases ht <;> rfl⟩
    | seq ht h32 _ hit =>
      obtain ⟨_, hl⟩ := rd32_ok _ _ _ h32
      simp only [List.length_cons] at hL ⊢
      obtain ⟨a, b, c⟩ := items hit (by omega)
      exact ⟨by simp only [Val.depth]; omega, by omega, by rw [encB_seq ht, Option.isSome_map]; exact c⟩
    | arr _ ht _ hit =>
      obtain ⟨a, b, c⟩ := items hit hL
      exact ⟨by simp only [Val.depth]; omega, b, by rw [encB_arr ht, if_pos (iterV_length hit)]; exact c⟩
    | map kt vt _ ps ht h32 _ hit =>
      obtain ⟨_, hl⟩ := rd32_ok _ _ _ h32
      simp only [List.length_cons] at hL ⊢
      -- SetMapIndex may overwrite: what holds of every decoded pair holds of every pair that is left
      obtain ⟨hall, b⟩ := iterP_induct
        (Q := fun _ acc bs' ps r => bs'.length < 4294967295 → acc.All (fun k v => EncAt o kt f k ∧ EncAt o vt f v) →
          ps.All (fun k v => EncAt o kt f k ∧ EncAt o vt f v) ∧ r.length ≤ bs'.length)
        (fun _ _ _ ha => ⟨ha, Nat.le_refl _⟩)
        (fun _ acc _ k _ v _ _ _ hk hv _ ihp hL ha => by
          obtain ⟨k1, k2, k3⟩ := ih _ _ _ _ _ hk hL
          obtain ⟨v1, v2, v3⟩ := ih _ _ _ _ _ hv (by omega)
          obtain ⟨p1, p2⟩ := ihp (by omega) (Pairs.insert_all _ k v ⟨⟨k1, k3⟩, v1, v3⟩ acc ha)
          exact ⟨p1, by omega⟩) _ _ _ _ _ hit (by omega) trivial
      obtain ⟨a, c⟩ := Pairs.all_enc o kt vt f ps hall
      exact ⟨by simp only [Val.depth]; omega, by omega, by rw [encB_map ht, Option.isSome_map]; exact c⟩
    | struct hit =>
      obtain ⟨a, b, c⟩ := iterF_induct
        (Q := fun fs bs' vs r => bs'.length < 4294967295 → vs.depth ≤ f ∧ r.length ≤ bs'.length ∧ (encf o fs vs).isSome = true)
        (fun _ _ => ⟨Nat.zero_le _, Nat.le_refl _, rfl⟩)
        (fun _ _ _ _ _ _ _ hv ihs hL => by
          obtain ⟨a, b, c⟩ := ih _ _ _ _ _ hv hL
          obtain ⟨a', b', c'⟩ := ihs (by omega)
          exact ⟨by simp only [Vals.depth]; omega, by omega, by rw [encf_isSome_cons, c, c']; rfl⟩) _ _ _ _ hit hL
      exact ⟨by simp only [Val.depth]; omega, b, c⟩
    | marsh h32 hl =>
      obtain ⟨_, hlen⟩ := rd32_ok _ _ _ h32
      -- the one place where the 4 GiB bound on the packet is needed: a marshaler payload takes at most 2^32 - 2 bytes
      refine ⟨by simp [Val.depth], by simp; omega, ?_⟩
      simp [encB, limBinaryEnc]; omega
    | leaf hl hct hdl =>
      have := checkTag_len _ _ _ _ hct
      obtain ⟨a, b, c⟩ := decLeaf_reenc o hd _ _ _ _ hdl
      refine ⟨by omega, by omega, ?_⟩
      rcases c with ⟨rfl, rfl⟩ | c
      · cases hl with
        | plain => rfl
        | named _ hn => cases hn
      · obtain ⟨b, hb⟩ := Option.isSome_iff_exists.1 c
        rw [encB_of_encLeaf hl hb]; rfl
end ErgoVerif.Edf
