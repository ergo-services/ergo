import ErgoVerif.Lemmas.Edf
import ErgoVerif.Lemmas.EdfKeys
/-! `dec` one level deep: its case distinction on the static type (`Ty.view`), its equations per case, what a
    successful call looks like (`dec_ok`), and rule induction for the three loops. -/
namespace ErgoVerif.Edf
open ErgoVerif.Generated.Edt

/-- a registered slice type is laid out like the unnamed one, with `edtReg` for its tag byte -/
inductive Ty.IsSeq : Ty → UInt8 → Ty → Prop
  | slice (e : Ty) : IsSeq (.slice e) edtSlice e
  | named (nm : Bytes) (e : Ty) : IsSeq (.named nm (.slice e)) edtReg e
inductive Ty.IsArr : Ty → Nat → Ty → Prop
  | array (n : Nat) (e : Ty) : IsArr (.array n e) n e
  | named (nm : Bytes) (n : Nat) (e : Ty) : IsArr (.named nm (.array n e)) n e
inductive Ty.IsMap : Ty → UInt8 → Ty → Ty → Prop
  | map (k v : Ty) : IsMap (.map k v) edtMap k v
  | named (nm : Bytes) (k v : Ty) : IsMap (.named nm (.map k v)) edtReg k v

/-- a registered bool, number or string type goes through the leaf decoder of the type under the name, with the tag check
    off whatever `state.decodeType` says (`getRegDecoder` has cleared it): `c` tells whether the flag counts -/
inductive Ty.IsLeaf : Ty → Bool → UInt8 → Ty → Prop
  | plain {t : Ty} {tag : UInt8} : t.leafTag = some tag → IsLeaf t true tag t
  | named (nm : Bytes) {t : Ty} {tag : UInt8} : t.namedLeaf = true → t.leafTag = some tag → IsLeaf (.named nm t) false tag t

inductive Ty.View : Ty → Prop
  | any : View .any
  | seq {t : Ty} (tag : UInt8) (e : Ty) : t.IsSeq tag e → View t
  | arr {t : Ty} (n : Nat) (e : Ty) : t.IsArr n e → View t
  | map {t : Ty} (tag : UInt8) (k v : Ty) : t.IsMap tag k v → View t
  | struct (nm : Bytes) (fs : Tys) : View (.struct nm fs)
  | marsh (nm : Bytes) (sz : Nat) : View (.marsh nm sz)
  | leaf {t : Ty} (c : Bool) (tag : UInt8) (t' : Ty) : t.IsLeaf c tag t' → View t
  /-- a registered name over anything else has no decoder -/
  | namedBad {t : Ty} : (∀ o f dt bs, dec o (f+1) dt t bs = .err) → View t

theorem Ty.view (t : Ty) : t.View := by
  cases t
  case any => exact .any
  case slice e => exact .seq _ e (.slice e)
  case array n e => exact .arr n e (.array n e)
  case map k v => exact .map _ k v (.map k v)
  case struct nm fs => exact .struct nm fs
  case marsh nm sz => exact .marsh nm sz
  case named nm t' =>
    cases t'
    case slice e => exact .seq _ e (.named nm e)
    case array n e => exact .arr n e (.named nm n e)
    case map k v => exact .map _ k v (.named nm k v)
    case bool => exact .leaf _ _ _ (.named nm rfl rfl)
    case num => exact .leaf _ _ _ (.named nm rfl rfl)
    case str => exact .leaf _ _ _ (.named nm rfl rfl)
    all_goals exact .namedBad fun _ _ _ _ => rfl
  all_goals exact .leaf _ _ _ (.plain rfl)

theorem iterV_induct {g : Bytes → Res (Val × Bytes)} {Q : Nat → Bytes → Vals → Bytes → Prop}
    (nil : ∀ bs, Q 0 bs .nil bs)
    (cons : ∀ n bs v r1 vs r, g bs = .ok (v, r1) → Q n r1 vs r → Q (n+1) bs (.cons v vs) r)
    (n : Nat) (bs : Bytes) (vs : Vals) (r : Bytes) : iterV g n bs = .ok (vs, r) → Q n bs vs r := by
  fun_induction iterV g n bs generalizing vs r <;> intro h <;> cases h
  · exact nil _
  · rename_i ih; exact cons _ _ _ _ _ _ ‹_› (ih _ _ ‹_›)

theorem iterF_induct {g : Ty → Bytes → Res (Val × Bytes)} {Q : Tys → Bytes → Vals → Bytes → Prop}
    (nil : ∀ bs, Q .nil bs .nil bs)
    (cons : ∀ t ts bs v r1 vs r, g t bs = .ok (v, r1) → Q ts r1 vs r → Q (.cons t ts) bs (.cons v vs) r)
    (fs : Tys) (bs : Bytes) (vs : Vals) (r : Bytes) : iterF g fs bs = .ok (vs, r) → Q fs bs vs r := by
  fun_induction iterF g fs bs generalizing vs r <;> intro h <;> cases h
  · exact nil _
  · rename_i ih; exact cons _ _ _ _ _ _ _ ‹_› (ih _ _ ‹_›)

theorem iterP_induct {gk gv : Bytes → Res (Val × Bytes)} {Q : Nat → Pairs → Bytes → Pairs → Bytes → Prop}
    (nil : ∀ acc bs, Q 0 acc bs acc bs)
    (cons : ∀ n acc bs k r1 v r2 ps r, gk bs = .ok (k, r1) → gv r1 = .ok (v, r2) → k.hashable = true →
      Q n (acc.insert k v) r2 ps r → Q (n+1) acc bs ps r)
    (n : Nat) (acc : Pairs) (bs : Bytes) (ps : Pairs) (r : Bytes) : iterP gk gv n acc bs = .ok (ps, r) → Q n acc bs ps r := by
  fun_induction iterP gk gv n acc bs generalizing ps r <;> intro h
  · cases h; exact nil _ _
  · rename_i ih; exact cons _ _ _ _ _ _ _ _ _ ‹_› ‹_› ‹_› (ih _ _ h)
  all_goals cases h

theorem iterV_length {g : Bytes → Res (Val × Bytes)} {n : Nat} {bs : Bytes} {vs : Vals} {r : Bytes}
    (h : iterV g n bs = .ok (vs, r)) : vs.length = n :=
  iterV_induct (Q := fun n _ vs _ => vs.length = n) (fun _ => rfl)
    (fun _ _ _ _ _ _ _ ih => by simp [Vals.length, ih]) n bs vs r h

theorem iterP_length_le {gk gv : Bytes → Res (Val × Bytes)} {n : Nat} {acc : Pairs} {bs : Bytes} {ps : Pairs} {r : Bytes}
    (h : iterP gk gv n acc bs = .ok (ps, r)) : ps.length ≤ acc.length + n :=
  iterP_induct (Q := fun n acc _ ps _ => ps.length ≤ acc.length + n) (fun _ _ => Nat.le_refl _)
    (fun _ acc _ k _ v _ _ _ _ _ _ ih => by have := Pairs.insert_length_le acc k v; omega) n acc bs ps r h

/-- nil marker, or tag byte, 32-bit count (at most the bytes that remain), items: the wire form of slices and maps -/
def counted (tag : UInt8) (items : Nat → Bytes → Res (Val × Bytes)) : Bytes → Res (Val × Bytes)
  | [] => .err
  | b :: r =>
    if b = edtNil then .ok (.nil, r)
    else if b ≠ tag then .err
    else match rd32 r with
      | none => .err
      | some (n, r') => if lenLt r' n then .err else items n r'

def Res.mapVal {α : Type} (f : α → Val) : Res (α × Bytes) → Res (Val × Bytes)
  | .ok (a, r) => .ok (f a, r)
  | .err => .err
  | .panic => .panic

theorem Res.mapVal_ok {α : Type} {f : α → Val} {x : Res (α × Bytes)} {v : Val} {r : Bytes}
    (h : x.mapVal f = .ok (v, r)) : ∃ a, x = .ok (a, r) ∧ v = f a := by
  cases x with
  | ok p => cases h; exact ⟨p.1, rfl, rfl⟩
  | err => cases h
  | panic => cases h

theorem counted_ok {tag : UInt8} {items : Nat → Bytes → Res (Val × Bytes)} {bs : Bytes} {v : Val} {r : Bytes} :
    counted tag items bs = .ok (v, r) →
    (bs = edtNil :: r ∧ v = .nil) ∨
      ∃ r0 n r', bs = tag :: r0 ∧ rd32 r0 = some (n, r') ∧ n ≤ r'.length ∧ items n r' = .ok (v, r) := by
  fun_cases counted tag items bs <;> intro h
  · cases h
  · cases h; exact .inl ⟨by simp [*], rfl⟩
  · cases h
  · cases h
  · cases h
  · exact .inr ⟨_, _, _, congrArg (· :: _) (Classical.not_not.1 ‹¬ _ ≠ tag›), ‹_›, le_of_not_lenLt ‹_›, h⟩

/-- the count check makes the empty-collection shortcut of the unnamed slice decoder redundant -/
theorem dec_seq {t e : Ty} {tag : UInt8} (h : t.IsSeq tag e) (o : Opts) (f : Nat) (dt : Bool) (bs : Bytes) :
    dec o (f+1) dt t bs = counted tag (fun n r => (iterV (dec o f false e) n r).mapVal .list) bs := by
  cases h <;> cases bs with
  | nil => rfl
  | cons b r =>
    simp only [dec, counted]
    cases rd32 r with
    | none => rfl
    | some p =>
      by_cases h0 : p.1 = 0
      · simp [h0, iterV, Res.mapVal]
      · simp only [h0, ↓reduceIte]
        cases iterV (dec o f false e) p.1 p.2 <;> rfl

theorem dec_mapOf {t kt vt : Ty} {tag : UInt8} (h : t.IsMap tag kt vt) (o : Opts) (f : Nat) (dt : Bool) (bs : Bytes) :
    dec o (f+1) dt t bs =
      counted tag (fun n r => (iterP (dec o f false kt) (dec o f false vt) n .nil r).mapVal .map) bs := by
  cases h <;> cases bs with
  | nil => rfl
  | cons b r =>
    simp only [dec, counted]
    cases rd32 r with
    | none => rfl
    | some p =>
      by_cases h0 : p.1 = 0
      · simp [h0, iterP, Res.mapVal]
      · simp only [h0, ↓reduceIte]
        cases iterP (dec o f false kt) (dec o f false vt) p.1 .nil p.2 <;> rfl

theorem dec_arr {t e : Ty} {n : Nat} (h : t.IsArr n e) (o : Opts) (f : Nat) (dt : Bool) (bs : Bytes) :
    dec o (f+1) dt t bs = if bs = [] ∧ n ≠ 0 then .err else (iterV (dec o f false e) n bs).mapVal .list := by
  cases h <;> cases bs with
  | nil => cases n <;> simp [dec, iterV, Res.mapVal]
  | cons b r =>
    simp only [dec, reduceCtorEq, false_and, ↓reduceIte]
    cases iterV (dec o f false e) n (b :: r) <;> rfl

theorem Ty.IsSeq.tag_ne_nil {t e : Ty} {tag : UInt8} (h : t.IsSeq tag e) : tag ≠ edtNil := by cases h <;> decide
theorem Ty.IsMap.tag_ne_nil {t k v : Ty} {tag : UInt8} (h : t.IsMap tag k v) : tag ≠ edtNil := by cases h <;> decide

theorem counted_be32 {tag : UInt8} (ht : tag ≠ edtNil) (items : Nat → Bytes → Res (Val × Bytes)) {n : Nat} {rest : Bytes}
    (hn : n < 4294967296) (hl : n ≤ rest.length) : counted tag items (tag :: (be32 n ++ rest)) = items n rest := by
  have : ¬ rest.length < n := by omega
  simp [counted, ht, rd32_be32 n hn, this]

theorem dec_struct (o : Opts) (f : Nat) (dt : Bool) (nm : Bytes) (fs : Tys) (bs : Bytes) :
    dec o (f+1) dt (.struct nm fs) bs = (iterF (fun t b => dec o f false t b) fs bs).mapVal .list := by
  simp only [dec]
  cases iterF (fun t b => dec o f false t b) fs bs <;> rfl

theorem dec_leaf {t t' : Ty} {c : Bool} {tag : UInt8} (h : t.IsLeaf c tag t') (o : Opts) (f : Nat) (dt : Bool) (bs : Bytes) :
    dec o (f+1) dt t bs = match checkTag (dt && c) tag bs with | some r => decLeaf o t' r | none => .err := by
  cases h with
  | plain h => rw [Bool.and_true]; cases t <;> cases h <;> rfl
  | named nm h _ => rw [Bool.and_false]; cases t' <;> cases h <;> rfl

/-- one level of a successful decode, as rules from what is read to the value and the rest; `d` stands for the decoder
    with one unit of fuel less -/
inductive DecStep (o : Opts) (d : Bool → Ty → Bytes → Res (Val × Bytes)) (dt : Bool) : Ty → Bytes → Val → Bytes → Prop
  | anyNil {bs r : Bytes} {dt' : Bool} : getDecoder o dt bs = .ok (none, r, dt') → DecStep o d dt .any bs .nil r
  /-- decodeAny into the same slot, and a nil error stored into an interface -/
  | anyFlat {bs r0 r : Bytes} {t' : Ty} {dt' : Bool} {v' v : Val} : getDecoder o dt bs = .ok (some t', r0, dt') →
      d dt' t' r0 = .ok (v', r) → (t' = .any ∧ v = v') ∨ (t' = .error ∧ v' = .nil ∧ v = .nil) → DecStep o d dt .any bs v r
  | anyVal {bs r0 r : Bytes} {t' : Ty} {dt' : Bool} {v' : Val} : getDecoder o dt bs = .ok (some t', r0, dt') →
      d dt' t' r0 = .ok (v', r) → t' ≠ .any → ¬ (t' = .error ∧ v' = .nil) → DecStep o d dt .any bs (.any t' v') r
  | nilSeq {t e : Ty} {tag : UInt8} {r : Bytes} : t.IsSeq tag e → DecStep o d dt t (edtNil :: r) .nil r
  | nilMap {t kt vt : Ty} {tag : UInt8} {r : Bytes} : t.IsMap tag kt vt → DecStep o d dt t (edtNil :: r) .nil r
  | seq {t e : Ty} {tag : UInt8} {r0 r' r : Bytes} {n : Nat} {vs : Vals} : t.IsSeq tag e → rd32 r0 = some (n, r') →
      n ≤ r'.length → iterV (d false e) n r' = .ok (vs, r) → DecStep o d dt t (tag :: r0) (.list vs) r
  | arr {t : Ty} (e : Ty) {n : Nat} {bs r : Bytes} {vs : Vals} : t.IsArr n e → (bs = [] → n = 0) →
      iterV (d false e) n bs = .ok (vs, r) → DecStep o d dt t bs (.list vs) r
  | map {t : Ty} (kt vt : Ty) {tag : UInt8} {r0 r' r : Bytes} (n : Nat) (ps : Pairs) : t.IsMap tag kt vt → rd32 r0 = some (n, r') →
      n ≤ r'.length → iterP (d false kt) (d false vt) n .nil r' = .ok (ps, r) → DecStep o d dt t (tag :: r0) (.map ps) r
  | struct {nm : Bytes} {fs : Tys} {bs r : Bytes} {vs : Vals} : iterF (fun t b => d false t b) fs bs = .ok (vs, r) →
      DecStep o d dt (.struct nm fs) bs (.list vs) r
  | marsh {nm : Bytes} {sz l : Nat} {bs r0 : Bytes} : rd32 bs = some (l, r0) → l ≤ r0.length →
      DecStep o d dt (.marsh nm sz) bs (.opaque (r0.take l)) (r0.drop l)
  | leaf {t t' : Ty} {c : Bool} {tag : UInt8} {bs r0 r : Bytes} {v : Val} : t.IsLeaf c tag t' →
      checkTag (dt && c) tag bs = some r0 → decLeaf o t' r0 = .ok (v, r) → DecStep o d dt t bs v r

theorem dec_ok {o : Opts} {f : Nat} {dt : Bool} {t : Ty} {bs : Bytes} {v : Val} {r : Bytes}
    (h : dec o (f+1) dt t bs = .ok (v, r)) : DecStep o (dec o f) dt t bs v r := by
  cases t.view with
  | any =>
    simp only [dec] at h
    split at h
    · cases h; exact .anyNil ‹_›
    · rename_i hg
      split at h
      · rename_i hv
        split at h
        · cases h; exact .anyFlat hg hv (.inl ⟨‹_›, rfl⟩)
        · split at h
          · cases h; exact .anyFlat hg hv (.inr ⟨‹_ ∧ _›.1, ‹_ ∧ _›.2, rfl⟩)
          · cases h; exact .anyVal hg hv ‹_› ‹_›
      · cases h
      · cases h
    · cases h
    · cases h
  | seq tag e ht =>
    rw [dec_seq ht] at h
    rcases counted_ok h with ⟨rfl, rfl⟩ | ⟨r0, n, r', rfl, h2, h3, h4⟩
    · exact .nilSeq ht
    · obtain ⟨vs, h5, rfl⟩ := Res.mapVal_ok h4
      exact .seq ht h2 h3 h5
  | arr n e ht =>
    rw [dec_arr ht] at h
    split at h
    · cases h
    · rename_i hn
      obtain ⟨vs, h5, rfl⟩ := Res.mapVal_ok h
      exact .arr e ht (fun hb => Classical.byContradiction fun h0 => hn ⟨hb, h0⟩) h5
  | map tag kt vt ht =>
    rw [dec_mapOf ht] at h
    rcases counted_ok h with ⟨rfl, rfl⟩ | ⟨r0, n, r', rfl, h2, h3, h4⟩
    · exact .nilMap ht
    · obtain ⟨ps, h5, rfl⟩ := Res.mapVal_ok h4
      exact .map kt vt n ps ht h2 h3 h5
  | struct nm fs =>
    rw [dec_struct] at h
    obtain ⟨vs, h5, rfl⟩ := Res.mapVal_ok h
    exact .struct h5
  | marsh nm sz =>
    simp only [dec, lenLt_eq, decide_eq_true_eq] at h
    split at h
    · cases h
    · split at h
      · cases h
      · cases h; exact .marsh ‹_› (by omega)
  | leaf c tag t' hl =>
    rw [dec_leaf hl] at h
    split at h
    · exact .leaf hl ‹_› h
    · cases h
  | namedBad hb => rw [hb] at h; cases h

end ErgoVerif.Edf
