/-
parse ∘ print = id on valid ASTs: the printer emits a text of the grammar (`SpecText s.print s`), so the
canonical text of every spec of the grammar is accepted by the parser model and yields the same AST.
-/
import ErgoVerif.Lemmas.CronGrammar
namespace ErgoVerif.Cron
open ErgoVerif.Generated.Cron

theorem optText_print {k : Kind} {i : Item} (hv : i.valid k = true) : OptText i.print i := by
  cases i with
  | num n => exact .num (numeral_digits n)
  | range a b => exact .range (numeral_digits a) (numeral_digits b)
  | rangeStep a b s => exact .rangeStep (numeral_digits a) (numeral_digits b) (numeral_digits s)
  | starStep s => exact .starStep (numeral_digits s)
  | last => exact .last
  | lastW w =>
    -- a weekday is one digit
    obtain ⟨_, h1, h2⟩ := Item.valid_iff.mp hv
    simp only [Item.print, digits_small w (by omega), List.singleton_append]
    exact .lastW h1 h2
  | nth w n =>
    obtain ⟨_, h1, h2, h3, h4⟩ := Item.valid_iff.mp hv
    simp only [Item.print, digits_small w (by omega), digits_small n (by omega), List.singleton_append]
    exact .nth h1 h2 h3 h4

theorem optTexts_print {k : Kind} {items : List Item} (hv : ∀ i ∈ items, i.valid k = true) :
    OptTexts (items.map Item.print) items := by
  induction items with
  | nil => exact .nil
  | cons i rest ih =>
    exact .cons (optText_print (hv i List.mem_cons_self)) (ih fun j hj => hv j (List.mem_cons_of_mem _ hj))

theorem fieldText_print {k : Kind} {f : Field} (hv : f.valid k = true) : FieldText k f.print f := by
  cases f with
  | star => rfl
  | list items =>
    obtain ⟨hne, hv⟩ := Field.valid_list.mp hv
    exact ⟨hne, hv, _, rfl, optTexts_print hv⟩

theorem expandMacro_of_not_mem {cs : List Char} (h : '@' ∉ cs) : expandMacro cs = cs := by
  unfold expandMacro
  rw [List.find?_eq_none.mpr fun m hm heq => h ?_]
  exact of_decide_eq_true heq ▸ (by decide : ∀ m ∈ macros, '@' ∈ m.1.toList) m hm

/-- the printed fields are words without '@': `fields` recovers them, and the text is no macro -/
theorem specText_print {s : Spec} (hv : s.valid = true) : SpecText s.print s := by
  obtain ⟨h1, h2, h3, h4, h5⟩ := Spec.valid_iff.mp hv
  have t1 := fieldText_print h1
  have t2 := fieldText_print h2
  have t3 := fieldText_print h3
  have t4 := fieldText_print h4
  have t5 := fieldText_print h5
  have hch : ∀ w ∈ [s.minute.print, s.hour.print, s.day.print, s.month.print, s.wday.print],
      w ≠ [] ∧ ∀ c ∈ w, c ≠ '@' ∧ isSpace c = false := by
    simp only [List.forall_mem_cons, List.not_mem_nil, false_imp_iff, implies_true, and_true]
    exact ⟨t1.word, t2.word, t3.word, t4.word, t5.word⟩
  have hmac : expandMacro s.print = s.print := expandMacro_of_not_mem fun hmem => by
    rcases mem_joinWith hmem with h | ⟨w, hw, hc⟩
    · cases h
    · exact ((hch w hw).2 _ hc).1 rfl
  refine ⟨_, _, _, _, _, ?_, t1, t2, t3, t4, t5⟩
  rw [hmac]
  exact fields_joinWith _ fun w hw => ⟨(hch w hw).1, fun c hc => ((hch w hw).2 c hc).2⟩

theorem parseSpec_print (s : Spec) (hv : s.valid = true) : parseSpec s.print = some s :=
  (parseSpec_iff _ _).mpr (specText_print hv)

end ErgoVerif.Cron
