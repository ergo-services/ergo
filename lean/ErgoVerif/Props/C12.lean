/-
C12 — remote delivery integrity (wire protocol part).

Models (all mirror net/proto/connection.go, see the files for the function-by-function map):
  Model/Stream.lean + Model/StreamLink.lean   read()/serve(): frame reassembly over arbitrary chunks
  Model/Frame.lean                      Send*/Call*/SendTerminate* builders and the header part of the
                                        receive cases, executed from the GENERATED layout tables
  Model/Envelope.lean                   send(): compression threshold, envelope, size check before write

What is proved here (for all inputs; `decide` is used only over the finite generated tables):
  * C12_segmentation, C12_segmentation_any, C12_conservation  — the reader outputs exactly the
    frames that were written, in order, for EVERY way the byte stream is cut into chunks;
  * C12_frame_roundtrip — for every frame kind the receive case recovers sender id, addressee,
    priority, reference, timestamp, name, important flag and the payload bytes the writer put in;
  * C12_oversize, C12_envelope_* — see the Envelope section;
  * C12_reply_not_lost (Model/Request.lean: the reply channel of a synchronous request), C12_end_to_end (writer, any
    segmentation, reader, dispatch, receive case in one statement), C12_ack_roundtrip / C12_important (Model/Ack.lean:
    the acknowledgement of an important delivery).
The flusher, the receive queue and the buffer hand-off are in Props/C12Flusher, C12RecvQ, C12BufOwner.
-/
import ErgoVerif.Lemmas.Request
import ErgoVerif.Model.Ack
import ErgoVerif.Lemmas.Remote
namespace ErgoVerif.Props.C12
open ErgoVerif.Stream ErgoVerif.Generated.Proto

/-- the bound read() enforces on the length field does not exclude any frame a writer can produce
    (every writer allocates at least the 8-byte header) -/
theorem read_guard_is_header (max : Nat) : (linkCfg max).minLen ≤ 8 :=
  Nat.le_of_eq (linkCfg_minLen max)

/-- For every receiver limit, every list of well-formed frames and EVERY segmentation of their
    concatenation (1-byte chunks, splits inside headers, several frames per chunk, empty chunks …)
    the reader hands exactly these frames, in order, to the decoding queues, stays open and keeps
    no residue. -/
theorem C12_segmentation (max : Nat) (hmax : max = 0 ∨ 8 ≤ max) (fs chunks : List Bytes)
    (hwf : ∀ f ∈ fs, WF (linkCfg max) f) (hj : chunks.flatten = fs.flatten) :
    readAll (linkCfg max) RState.init chunks = (⟨[], none⟩, fs) :=
  segmentation (linkCfg max) hmax fs chunks hwf hj

/-- The output of the reader depends only on the bytes, never on how they were cut — for ANY
    byte stream (well-formed or not). -/
theorem C12_segmentation_any (max : Nat) (hmax : max = 0 ∨ 8 ≤ max) (chunks chunks' : List Bytes)
    (hj : chunks.flatten = chunks'.flatten) :
    readAll (linkCfg max) RState.init chunks = readAll (linkCfg max) RState.init chunks' := by
  rw [readAll_eq_cutAll _ hmax, readAll_eq_cutAll _ hmax, hj]

/-- No byte is lost, duplicated or reordered: while the link is open the frames handed over plus the
    buffered remainder are exactly the bytes received. -/
theorem C12_conservation (max : Nat) (hmax : max = 0 ∨ 8 ≤ max) (chunks : List Bytes) :
    let r := readAll (linkCfg max) RState.init chunks
    r.1.closed = none → r.2.flatten ++ r.1.buf = chunks.flatten := by
  intro r
  rw [show r = _ from readAll_eq_cutAll _ hmax chunks]
  have hc := cutAll_conserve (linkCfg max) chunks.flatten
  revert hc
  cases cutAll (linkCfg max) chunks.flatten with
  | more fs rest => exact fun hc _ => hc
  | closed fs w => exact fun _ => nofun

/-- well-formed frames followed by garbage: the well-formed ones still come out first and in order -/
theorem C12_prefix (max : Nat) (hmax : max = 0 ∨ 8 ≤ max) (fs chunks : List Bytes) (junk : Bytes)
    (hwf : ∀ f ∈ fs, WF (linkCfg max) f) (hj : chunks.flatten = fs.flatten ++ junk) :
    ∃ gs, (readAll (linkCfg max) RState.init chunks).2 = fs ++ gs := by
  rw [readAll_eq_cutAll _ hmax, hj, cutAll_append _ hmax, cutAll_wf_frames _ fs hwf]
  exact ⟨(cutAll (linkCfg max) ([] ++ junk)).frames, by simp⟩

/-- a frame over the receiver's limit is refused by the reader (and closes the link) as soon as its
    header is complete — the body is never buffered -/
theorem C12_reader_limit (max : Nat) (hmax : 8 ≤ max) (hdr : Bytes) (h8 : hdr.length = 8)
    (hl : lenField hdr > max) :
    (readAll (linkCfg max) RState.init [hdr]).1.closed = some .tooLong := by
  have hmin : readMinLen ≤ 8 := read_guard_is_header max
  simp only [readAll, stepChunk, RState.init, List.nil_append, cutAll, h8]
  have h1 : ¬ (lenField hdr < readMinLen) := by omega
  have h2 : 0 < max := by omega
  simp [cut, h8, linkCfg, hl, h1, h2]

/-! non-vacuity: a two-frame stream cut in three different ways -/
def f1 : Bytes := [78, 1, 0, 0, 0, 9, 0, 199, 7]
def f2 : Bytes := [78, 1, 0, 0, 0, 10, 3, 101, 1, 2]
example : WF (linkCfg 0) f1 ∧ WF (linkCfg 64) f2 := by decide
example : readAll (linkCfg 0) RState.init [f1 ++ f2] = (⟨[], none⟩, [f1, f2]) := by decide
example : readAll (linkCfg 0) RState.init [[78], [1, 0, 0, 0], [9, 0, 199, 7, 78, 1, 0], [0, 0, 10, 3, 101, 1, 2]]
    = (⟨[], none⟩, [f1, f2]) := by decide
example : readAll (linkCfg 16) RState.init ((f1 ++ f2).map fun b => [b]) = (⟨[], none⟩, [f1, f2]) := by decide

section Frames
open ErgoVerif.Frame

/-- the extractor found a writer method and a receive case for exactly these message types
    (every Send*/Call*/SendTerminate* method of gen.Connection, both name variants, and sendAny) -/
theorem C12_kinds_complete :
    wireKinds.map (·.typ) =
      [101, 102, 103, 104, 105, 106, 107, 121, 122, 123, 124, 129, 130, 181, 182, 183, 184, 185, 186, 199] := by
  decide

/-- message-type bytes identify the kind -/
theorem C12_types_distinct : (kinds.map (·.typ)).Nodup := ErgoVerif.Remote.kinds_typ_nodup

/-- writer and reader tables of every kind agree: same field at the same offset with the same width,
    fields do not overlap, flags are OR-ed after the byte they live in is written, the name and the
    payload start where the writer put them (checked over the GENERATED tables) -/
theorem C12_layouts_ok : ∀ k ∈ wireKinds, LayoutOK k = true := ErgoVerif.Remote.layoutOK_wire

/-- every EDF payload is at least 2 bytes (a type tag and a value; `nil` is refused by the encoder),
    which is enough to pass the first length guard of every receive case, whatever the name -/
theorem C12_guards_reachable : ∀ k ∈ wireKinds, k.guard ≤ k.alloc + 2 := by decide

/-- read ∘ write = id, for every frame kind and every message whose field values fit their width:
    the receive case obtains exactly the payload bytes and the inline name that were sent, and every
    header field it extracts (sender id, addressee id / alias words, priority, the three reference
    words, timestamp, cache id, error code, important flag) has the value the writer stored. -/
theorem C12_frame_roundtrip (k : Kind) (hk : k ∈ wireKinds) (m : Msg) (hf : m.fits k) :
    ∃ p, parse k (encode k m) = .ok p ∧
         p.payload = m.payload ∧
         p.name = (if k.inlineName then m.name else []) ∧
         ∀ x ∈ expectedFields k m, x ∈ p.fields :=
  parse_encode k (C12_layouts_ok k hk) m hf

/-- masks: the priority byte is read whole or with `& 3` (which keeps every defined priority 0, 1, 2
    — so `expected` is the priority itself), the important flag is bit 7 on both sides -/
theorem C12_masks : ∀ k ∈ wireKinds,
    (∀ r ∈ k.reads, r.name = "options.Priority" → r.mask = 0 ∨ r.mask = 3) ∧
    (∀ r ∈ k.reads, r.mask ≠ 0 → r.name = "options.Priority" ∨ (r.name = "important" ∧ r.mask = 128)) ∧
    (∀ w ∈ k.writes, w.mask ≠ 0 → w.mask = 128 ∧ w.cond = "important") := by decide

theorem C12_priority_exact (p : Nat) (hp : p ≤ 2) : p &&& 3 = p := by
  match p, hp with
  | 0, _ => rfl
  | 1, _ => rfl
  | 2, _ => rfl

/-- every writer that addresses a process id or an alias of a particular incarnation compares the
    incarnation with the peer's before it touches the buffer (refused ⇒ nothing written) -/
theorem C12_incarnation_guarded :
    ∀ k ∈ wireKinds, k.typ ∈ [101, 104, 107, 121, 124, 129, 130] → k.incarnation = true := by decide
-- The Terminate frames (181, 184) announce a LOCAL target: since the repair of the guard in SendTerminatePID/Alias they
-- compare with the node's own incarnation, which is the subject of Props/C14.lean (C14_terminate_announced).

/-- the payload handed to the decoder is always a suffix of the frame (nothing foreign is decoded) -/
theorem C12_payload_is_suffix (k : Kind) (f : List UInt8) (p : Parsed) (h : parse k f = .ok p) :
    ∃ pre, f = pre ++ p.payload := by
  obtain ⟨_, _, _, h⟩ := (parse_ok_iff k f p).mp h
  split at h
  · obtain ⟨lb, _, _, _, hp⟩ := h
    exact ⟨_, by rw [hp, List.take_append_drop]⟩
  · exact ⟨_, by rw [h.2.2, List.take_append_drop]⟩

/-! non-vacuity: an important SendPID and a CallProcessID with an inline name -/
def vals0 : Vals := fun n =>
  if n = "from.ID" then 1021 else if n = "to.ID" then 77 else if n = "options.Priority" then 2
  else if n = "options.Ref.ID[0]" then 123456789 else if n = "options.Ref.ID[1]" then 5
  else if n = "options.Ref.ID[2]" then 6 else 3
def msg0 : Msg := ⟨vals0, true, [65, 66, 67], [141, 0, 1, 120]⟩
example : (kindOf 101).map (fun k => parse k (encode k msg0)) =
    some (.ok ⟨[("from.ID", 1021), ("options.Priority", 2), ("important", 128), ("to.ID", 77), ("options.Ref.ID[0]", 123456789)],
               [], [141, 0, 1, 120]⟩) := by decide
example : (kindOf 122).map (fun k => (parse k (encode k msg0))) =
    some (.ok ⟨[("from.ID", 1021), ("options.Priority", 2), ("important", 128), ("options.Ref.ID[0]", 123456789),
                ("options.Ref.ID[1]", 5), ("options.Ref.ID[2]", 6), ("name.len", 3)], [65, 66, 67], [141, 0, 1, 120]⟩) := by decide
/-- a frame shorter than its kind's guard is dropped, never mis-parsed -/
example : (kindOf 101).map (fun k => parse k ((encode k msg0).take 29)) = some .dropped := by decide

end Frames

section Envelope
open ErgoVerif.Frame ErgoVerif.Envelope

/-- compression happens exactly when it is enabled and the frame is LONGER than the threshold -/
theorem C12_threshold (c : Comp) (frame : List UInt8) :
    wantsZ c frame = true ↔ c.enable = true ∧ (frame.length : Int) > c.threshold := by
  simp [wantsZ, zStrictThreshold]

/-- oversize ⇒ refused at the sender with nothing written: whenever what would go on the wire is
    longer than the peer's limit, send() returns the error instead of a frame -/
theorem C12_oversize (cd : Codec) (peerMax : Nat) (c : Comp) (frame : List UInt8) (hmax : peerMax > 0)
    (hbig : (if wantsZ c frame then envelope cd c.ctype frame else frame).length > peerMax) :
    send cd peerMax c frame = none := by
  simp only [send, sendChecksMax, Bool.true_and]
  simp [hmax, hbig]

/-- … and whatever is written respects the limit -/
theorem C12_written_within_limit (cd : Codec) (peerMax : Nat) (c : Comp) (frame out : List UInt8)
    (h : send cd peerMax c frame = some out) : peerMax = 0 ∨ out.length ≤ peerMax := by
  simp only [send, sendChecksMax, Bool.true_and] at h
  by_cases hb : peerMax > 0 ∧ (if wantsZ c frame = true then envelope cd c.ctype frame else frame).length > peerMax
  · simp [hb] at h
  · simp [hb] at h
    subst h
    omega

/-- a writer that checks the limit before building the header refuses on the plain length already -/
theorem C12_oversize_early (cd : Codec) (k : Kind) (hk : k.earlyMax = true) (peerMax : Nat) (c : Comp) (m : Msg)
    (hmax : peerMax > 0) (hbig : (encode k m).length > peerMax) : sendKind cd k peerMax c m = none := by
  simp [sendKind, hk, hmax, hbig]

/-- below the threshold, or with compression off, the frame goes out unchanged -/
theorem C12_plain (cd : Codec) (peerMax : Nat) (c : Comp) (frame : List UInt8)
    (hz : wantsZ c frame = false) (hfit : peerMax = 0 ∨ frame.length ≤ peerMax) :
    send cd peerMax c frame = some frame := by
  simp only [send, hz, sendChecksMax, Bool.true_and]
  have : ¬ (peerMax > 0 ∧ frame.length > peerMax) := by omega
  simp [this]

/-- envelope round trip: under the HYPOTHESIS that the decompressor undoes the compressor, the
    compressed receive case yields exactly the frame send() wrapped, for every compression id and frame -/
theorem C12_envelope_roundtrip (cd : Codec) (hrt : ∀ t b, cd.decomp t (cd.comp t b) = some b)
    (t : Nat) (ht : t < 256) (frame : List UInt8) (hl : frame.length < 2 ^ 32) :
    openEnvelope cd (envelope cd t frame) = some frame := by
  obtain ⟨h1, h2⟩ := envelope_guards cd t frame
  simp only [openEnvelope, if_neg h1, if_neg h2, envelope_ctype, UInt8.toNat_ofNat_of_lt' ht, envelope_drop, hrt,
    envelope_declared, beVal_beBytes 4 _ (show frame.length < 256 ^ 4 from hl), if_true]

/-- the envelope is itself a frame the reader accepts (so `C12_segmentation` applies to it), and it
    keeps the order byte of the message it carries -/
theorem C12_envelope_wellformed (cd : Codec) (t : Nat) (frame : List UInt8) (max : Nat)
    (hl : zPreallocate + 4 + (cd.comp t frame).length < 2 ^ 32)
    (hm : max > 0 → (envelope cd t frame).length ≤ max) :
    WF (linkCfg max) (envelope cd t frame) ∧ (envelope cd t frame).getD 6 0 = frame.getD 6 0 := by
  have h8 : 8 ≤ (envelope cd t frame).length := by have := (envelope_guards cd t frame).1; omega
  refine ⟨⟨h8, ErgoVerif.Remote.envelope_lenField cd t frame hl, hm, Nat.le_trans (read_guard_is_header max) h8,
    ?_⟩, envelope_order cd t frame⟩
  rw [envelope_eq, be4_explicit]; rfl

/-- the round-trip hypothesis is satisfiable (identity codec), so the theorem is not vacuous -/
example : ∃ cd : Codec, ∀ t b, cd.decomp t (cd.comp t b) = some b := ⟨⟨fun _ b => b, fun _ b => some b⟩, fun _ _ => rfl⟩

end Envelope

section Request
open ErgoVerif.Request

/-- For EVERY interleaving of the requester (send … enter the select … receive / time out) with the
    receive worker that hands the reply over by a non-blocking send: the reply is never thrown
    away, and once it has arrived for a request that is still pending the requester can no longer
    time out — it can only receive it. -/
theorem C12_reply_not_lost (ls : List Lbl) (s : St) (hr : run requestChanCap init ls = some s) :
    s.dropped = false ∧ (s.arrived = true → s.registered = true → step requestChanCap s .timeout = none ∧ s.buffered = true) :=
  buffered_ok requestChanCap (by decide) ls s hr

/-- regression witness (the code before the repair used unbuffered channels): a reply that comes
    back before the requester reaches the select is dropped and the request times out -/
theorem C12_reply_unbuffered_lost : ∃ ls s, run 0 init ls = some s ∧ s.dropped = true ∧
    run 0 s [.enterWait, .timeout] = some { s with req := .timedOut, registered := false } :=
  ⟨[.replyArrives], _, rfl, rfl, rfl⟩

/-- the schedule "reply first, then wait" is enabled and ends with the reply received -/
example : (run requestChanCap init [.replyArrives, .enterWait, .recv]).map (·.req) = some .gotReply := by decide

end Request

section EndToEnd
open ErgoVerif.Frame

/-- every frame a writer method produces is a frame the link reader accepts -/
theorem C12_writer_frames_wellformed (k : Kind) (hw : k ∈ wireKinds) (m : Msg) (hf : m.fits k) (max : Nat)
    (hmax : max > 0 → (encode k m).length ≤ max) : WF (linkCfg max) (encode k m) :=
  ErgoVerif.Remote.encode_wf_wire k hw m hf max hmax

/-- For every list of messages (any kinds, any field values that fit, any payload bytes, any names),
    every receiver limit the frames respect, and EVERY way the concatenated frames are cut into
    segments: the reader hands over exactly the frames that were written, in order, and stays open
    with nothing left over; each frame is dispatched by its type byte to the receive case of the
    kind that wrote it, which recovers the payload bytes, the name and every header field — the
    arguments of the Route* call are those of the Send*/Call* call. -/
theorem C12_end_to_end (max : Nat) (hmax : max = 0 ∨ 8 ≤ max) (sent : List (Kind × Msg))
    (hk : ∀ km ∈ sent, km.1 ∈ wireKinds ∧ LayoutOK km.1 = true ∧ km.2.fits km.1 ∧
          (max > 0 → (encode km.1 km.2).length ≤ max) ∧ (encode km.1 km.2).length < 2 ^ 32)
    (chunks : List (List UInt8))
    (hj : chunks.flatten = (sent.map (fun km => encode km.1 km.2)).flatten) :
    let out := readAll (linkCfg max) RState.init chunks
    out.1 = ⟨[], none⟩ ∧
    out.2 = sent.map (fun km => encode km.1 km.2) ∧
    ∀ km ∈ sent, ∃ p, (match (encode km.1 km.2)[7]? with
                        | some t => (kindOf t.toNat).map (fun k => parse k (encode km.1 km.2))
                        | none => none) = some (.ok p) ∧
                      p.payload = km.2.payload ∧
                      p.name = (if km.1.inlineName then km.2.name else []) ∧
                      ∀ x ∈ expectedFields km.1 km.2, x ∈ p.fields :=
  ErgoVerif.Remote.pipeline max hmax sent hk chunks hj

end EndToEnd

section Important
open ErgoVerif.Ack

/-- the two `switch` statements agree: every error that has a code of its own is mapped back to
    itself, success to success, the escape code to "decode the error that follows"; codes are distinct -/
theorem C12_error_codes :
    (∀ e ∈ errCodeW, e.1 ≠ "default" → (e.2, e.1) ∈ errCodeR) ∧
    (∀ e ∈ errCodeW, e.1 = "default" → (e.2, "decode") ∈ errCodeR) ∧
    (errCodeW.map (·.2)).Nodup ∧ (errCodeR.map (·.1)).Nodup ∧ (errCodeW.map (·.1)).Nodup ∧
    ("nil", 0) ∈ errCodeW := by decide

/-- no error is sent under the reader's escape word -/
theorem errCodeW_ne_decode : ∀ e ∈ errCodeW, e.1 ≠ "decode" := by decide

/-- the acknowledgement decodes to the remote result — for success, for each error with its own
    code, and (under the EDF round-trip HYPOTHESIS for errors) for any other error -/
theorem C12_ack_roundtrip (encE : List UInt8 → List UInt8) (decE : List UInt8 → Option (List UInt8))
    (hrt : ∀ t, decE (encE t) = some t) (r : RErr)
    (hr : ∀ n, r = .named n → n ≠ "nil" ∧ n ≠ "default" ∧ (codeOf n).isSome) :
    ∃ c rest, encodeAck encE r = some (c, rest) ∧ decodeAck decE c rest = some r := by
  cases r with
  | ok => exact ⟨0, [], rfl, rfl⟩
  | other t => exact ⟨255, encE t, rfl, congrArg (Option.map RErr.other) (hrt t)⟩
  | named n =>
    obtain ⟨h1, h2, h3⟩ := hr n rfl
    -- `n` has a code, so it is the name of a table entry `e`
    obtain ⟨c, hc⟩ := Option.isSome_iff_exists.mp h3
    obtain ⟨e, he, rfl⟩ := Option.map_eq_some_iff.mp hc
    obtain rfl : e.1 = n := by simpa using List.find?_some he
    have hm := List.mem_of_find?_eq_some he
    -- … which the reader's table maps back to its name, the codes there being distinct
    obtain ⟨hback, _, _, hnd, _⟩ := C12_error_codes
    have t2 := errCodeW_ne_decode e hm
    have t3 : nameOf e.2 = some e.1 :=
      congrArg (Option.map Prod.snd) (find?_of_nodup_key Prod.fst errCodeR hnd (e.2, e.1) (hback e hm h2))
    exact ⟨e.2, [], by simp [encodeAck, h1, h2, hc], by simp only [decodeAck, t3]⟩

/-- an important send reports success exactly when the remote Route* call returned nil, and
    otherwise the remote error (both flags on; errors as in `C12_ack_roundtrip`) -/
theorem C12_important (encE : List UInt8 → List UInt8) (decE : List UInt8 → Option (List UInt8))
    (hrt : ∀ t, decE (encE t) = some t) (r : RErr)
    (hr : ∀ n, r = .named n → n ≠ "nil" ∧ n ≠ "default" ∧ (codeOf n).isSome) :
    importantSend encE decE true true r = .result r ∧
    (importantSend encE decE true true r = .result .ok ↔ r = .ok) ∧
    (r ≠ .ok → importantCall encE decE true true r = .result r) ∧
    importantSend encE decE false true r = .unsupported := by
  obtain ⟨c, rest, he, hd⟩ := C12_ack_roundtrip encE decE hrt r hr
  have h1 : importantSend encE decE true true r = .result r := by simp [importantSend, he, hd]
  refine ⟨h1, ?_, ?_, by simp [importantSend]⟩
  · rw [h1]; constructor
    · intro h; injection h
    · intro h; rw [h]
  · intro hne; simp [importantCall, hne, h1]

/-- the reference travels sender → receiver → sender unchanged: the word the important Send* kinds
    store at 17..25 is the word the receive cases read for the acknowledgement, and the
    acknowledgement kind carries the three reference words at the places its receive case reads -/
theorem C12_ack_reference :
    (∀ t ∈ [101, 102, 103, 104], ∃ k, ErgoVerif.Frame.kindOf t = some k ∧
        ⟨"options.Ref.ID[0]", 17, 8, 0, "important"⟩ ∈ k.writes ∧ ⟨"options.Ref.ID[0]", 17, 8, 0, ""⟩ ∈ k.reads) ∧
    (∃ k, ErgoVerif.Frame.kindOf 130 = some k ∧
        ∀ i ∈ [(0, 25), (1, 33), (2, 41)],
          ⟨s!"options.Ref.ID[{i.1}]", i.2, 8, 0, ""⟩ ∈ k.writes ∧ ⟨s!"options.Ref.ID[{i.1}]", i.2, 8, 0, ""⟩ ∈ k.reads) := by
  decide

/-- buffer lifetime: no receive case reads a header field after it has handed the frame buffer back
    to the pool (`lib.ReleaseBuffer`) — the acknowledgement reference in particular is read while the
    frame is still there (statement-order data flow extracted from handleRecvQueue; before the S8
    repair this list was [MessagePID@17, MessageName@17, MessageNameCache@17, MessageAlias@17]) -/
theorem C12_no_read_after_release : readsAfterRelease = [] := by decide

example : importantSend id some true true (.named "gen.ErrProcessMailboxFull") = .result (.named "gen.ErrProcessMailboxFull") := by decide
example : importantSend id some true false .ok = .noAck := by decide

end Important

end ErgoVerif.Props.C12
