import ErgoVerif.Props.C17
/-!
# C17 — "terminate callback invoked exactly once with the causing reason"; unload only when stopped

`afterRuleG gf` is `afterRule` with the position of `a.reason = reason` relative to the "already in stopping -> break"
guard as a parameter (`gf`, regenerated: `Gen.App.causeAfterStoppingGuard`); `unloadOk ul` is the condition under which
ApplicationUnload succeeds (`ul`, regenerated: `Gen.App.unloadOnlyFromLoaded` — CAS(loaded -> 0) — versus "not running").

* `C17_cause_kept`     — once an application is stopping for a cause c, every later member termination, with any
                         reason and in any order, leaves c in place, and the one Terminate of this run receives c
* `C17_cause_overwritten_without_guard` — recording before the guard hands a later member's reason to Terminate
* `C17_unload`         — an unload that succeeds finds no member alive (so the run has ended and Terminate has run)
* `C17_unload_while_stopping_without_cas` — refusing only a *running* application unloads one that is still stopping
-/
namespace ErgoVerif.Props.C17Cause
open ErgoVerif.App ErgoVerif.Props.C17

def afterRuleG (gf : Bool) (a : App) (r : Reason) : App :=
  if gf then afterRule a r
  else if modeRule a.mode r then
    if a.state = .stopping then { a with reason := some r }
    else { a with state := .stopping, reason := some r, exitsSent := a.exitsSent ++ a.group }
  else a

def terminateG (gf : Bool) (a : App) (i : Nat) (r : Reason) : App :=
  if i ∉ a.group then a else finish (afterRuleG gf { a with group := a.group.erase i } r)

def exits (gf : Bool) (a : App) : List (Nat × Reason) → App
  | [] => a
  | e :: es => exits gf (terminateG gf a e.1 e.2) es

theorem terminateG_true (a : App) (i : Nat) (r : Reason) : terminateG true a i r = terminate a i r := by
  simp [terminateG, terminate, afterRuleG]

/-- what stays true of an application that is stopping for cause `c` in run `n` with Terminate entries `t0` so far -/
def Stopping (c : Reason) (n : Nat) (t0 : List (Nat × Reason)) (a : App) : Prop :=
  a.reason = some c ∧ a.run = n ∧
  ((a.state = .stopping ∧ a.termCbs = t0) ∨ (a.state = .loaded ∧ a.group = [] ∧ a.termCbs = t0 ++ [(n, c)]))

theorem terminate_stopping {c : Reason} {n : Nat} {t0 : List (Nat × Reason)} {a : App} (i : Nat) (r : Reason)
    (h : Stopping c n t0 a) : Stopping c n t0 (terminate a i r) := by
  by_cases hin : i ∈ a.group
  · obtain ⟨hr, hn, ⟨hst, ht⟩ | ⟨_, hg, _⟩⟩ := h
    · rw [terminate_inert hin (Or.inr hst)]
      by_cases hge : a.group.erase i = []
      · rw [finish_of_nil hge (by simp [hst])]
        exact ⟨by simp [hr], hn, Or.inr ⟨rfl, hge, by simp [ht, hn, hr]⟩⟩
      · rw [finish_of_ne_nil hge]
        exact ⟨hr, hn, Or.inl ⟨hst, ht⟩⟩
    · rw [hg] at hin; cases hin
  · rw [terminate_of_not_mem r hin]
    exact h

theorem exits_stopping {c : Reason} {n : Nat} {t0 : List (Nat × Reason)} (es : List (Nat × Reason)) {a : App}
    (h : Stopping c n t0 a) : Stopping c n t0 (exits true a es) := by
  induction es generalizing a with
  | nil => exact h
  | cons e es ih =>
    simp only [exits, terminateG_true]
    exact ih (terminate_stopping e.1 e.2 h)

theorem C17_code_shape_cause : Gen.App.causeAfterStoppingGuard = true ∧ Gen.App.unloadOnlyFromLoaded = true := by decide

theorem C17_cause_kept (a : App) (c : Reason) (hs : a.state = .stopping) (hr : a.reason = some c)
    (es : List (Nat × Reason)) :
    (exits Gen.App.causeAfterStoppingGuard a es).reason = some c ∧
    ((exits Gen.App.causeAfterStoppingGuard a es).termCbs = a.termCbs ∨
     (exits Gen.App.causeAfterStoppingGuard a es).termCbs = a.termCbs ++ [(a.run, c)]) :=
  -- the flag is `true`, so this is `exits true`
  have h := exits_stopping es ⟨hr, rfl, Or.inl ⟨hs, rfl⟩⟩
  ⟨h.1, h.2.2.imp (·.2) (·.2.2)⟩

/-- recording the reason before the guard: a Transient application stops because member 0 crashed (7); member 1 is
    killed before it obeys; Terminate receives `kill` -/
theorem C17_cause_overwritten_without_guard :
    let a0 := (step true App.init (.start .transient 3 none)).1
    let a := exits false a0 [(0, .crash 7), (1, .kill), (2, .shutdown)]
    a.termCbs = [(1, .kill)] ∧ (exits true a0 [(0, .crash 7), (1, .kill), (2, .shutdown)]).termCbs = [(1, .crash 7)] := by
  decide

/-- ApplicationUnload succeeds: through CAS(loaded -> 0) (`ul`), or whenever the application is not running -/
def unloadOk (ul : Bool) (a : App) : Bool :=
  if ul then decide (a.state = .loaded) else decide (a.state ≠ .running)

/-- for the code as it is: an unload that succeeds finds the application stopped, with no member alive -/
theorem C17_unload (ops : List Op) :
    let a := runOps rr App.init ops
    unloadOk Gen.App.unloadOnlyFromLoaded a = true → a.state = .loaded ∧ a.group = [] :=
  -- the flag is `true`, so `unloadOk` is `decide (a.state = .loaded)`
  fun h => have hl := of_decide_eq_true h; ⟨hl, C17_loaded_no_members ops hl⟩

theorem C17_unload_while_stopping_without_cas :
    let a := runOps true App.init [.start .permanent 2 none, .memberExit 1 (.crash 3)]
    unloadOk false a = true ∧ a.state = .stopping ∧ a.group = [0] ∧ unloadOk true a = false := by
  decide

/-! non-vacuity: a stopping application with a cause exists and is reachable -/
example : (runOps true App.init [.start .permanent 2 none, .memberExit 1 (.crash 3)]).state = .stopping ∧
    (runOps true App.init [.start .permanent 2 none, .memberExit 1 (.crash 3)]).reason = some (.crash 3) := by decide

end ErgoVerif.Props.C17Cause
