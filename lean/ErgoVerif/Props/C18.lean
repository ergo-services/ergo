import ErgoVerif.Common
import ErgoVerif.ListFacts
import ErgoVerif.Generated.Event
import ErgoVerif.Lemmas.Event
/-!
# C18 — events: every subscriber sees every publication once, in order

`Model/Event.lean` mirrors the event code: the TargetManager lists one consumer entry per *relation*; whether the
fan-out loop serves a consumer once (`dd`), whether a subscriber's termination updates the subscriber counter (`dc`),
whether a publication goes to a remote node once or once per subscriber there (`fd`), and whether subscribe inserts the
relation before it reads the buffer (`ab`), are flags of the model, regenerated from the source.
-/
namespace ErgoVerif.Props.C18
open ErgoVerif.Event

/-- the code as it is: does a subscriber's termination update the counter (regenerated) -/
abbrev dc : Bool := Gen.Event.terminationUpdatesCounter
/-- the code as it is: does the publication fan-out serve each consumer once (regenerated) -/
abbrev dd : Bool := Gen.Event.publishDedupes
/-- the code as it is: one frame per remote node (regenerated) -/
abbrev fd : Bool := Gen.Event.remoteFramePerNode
/-- the code as it is: subscribe inserts the relation before it reads the buffer (regenerated) -/
abbrev ab : Bool := Gen.Event.subscribeAddsBeforeSnapshot

/-- invariants for every history: relations are distinct, the replay buffer is the tail of the publications -/
def Inv (e : Ev) : Prop :=
  e.subs.Nodup ∧ e.last.length ≤ e.cap ∧ (∃ pre, e.published = pre ++ e.last) ∧
  (e.last.length < e.cap → e.last = e.published)

theorem step_inv (b d : Bool) (e : Ev) (o : Op) (h : Inv e) : Inv (step b d e o).1 := by
  -- `h.2` is `Replay e.cap e.last e.published`: only a publication touches it, only the subscriber operations `subs`
  refine step_cases b d e o h ?_ ?_ ?_ ?_ ?_ ?_
  · intro _ _ _; simp [Inv, Ev.init]
  · simp [Inv, Ev.init]
  · intro m; exact ⟨h.1, Replay.push h.2 m⟩
  · intro r hr; exact ⟨nodup_snoc.mpr ⟨hr, h.1⟩, h.2⟩
  · intro r _; exact ⟨h.1.erase _, h.2⟩
  · intro c; exact ⟨h.1.filter _, h.2⟩

theorem reach_inv (b d : Bool) (ops : List Op) : Inv (runOps b d Ev.init ops) :=
  runOps_inv (step_inv b d) ops (by simp [Inv, Ev.init])

/-- number of subscriptions process c holds (0, 1 or 2: link and monitor are separate relations) -/
def subsOf (e : Ev) (c : Nat) : Nat := (e.subs.filter (fun s => s.1 = c)).length

/-- what the TargetManager lists for the event: one entry per relation -/
theorem count_consumers (e : Ev) (c : Nat) : (e.subs.map (·.1)).count c = subsOf e c := by
  unfold subsOf
  rw [List.count_eq_countP, List.countP_map, List.countP_eq_length_filter]
  congr 1

/-- **Fan-out, parametric in the dedupe flag.** In any state a publication with the right token is recorded
and delivered: to every process holding a subscription — once when the loop keeps a `delivered` set, once per
relation otherwise — and to nobody else; a wrong token is refused and changes nothing. -/
theorem publish_spec (b d : Bool) (e : Ev) (tok m c : Nat) :
    (e.registered = true → tok = e.token →
        ∃ to, (step b d e (.publish tok m)).2 = .delivered to ∧
          to.count c = (if d then (if 1 ≤ subsOf e c then 1 else 0) else subsOf e c) ∧
          (step b d e (.publish tok m)).1.published = e.published ++ [m]) ∧
    (e.registered = true → tok ≠ e.token → step b d e (.publish tok m) = (e, .errOwner)) := by
  constructor
  · intro hr ht
    refine ⟨fanout d (e.subs.map (·.1)), by simp [step, hr, ht], ?_, by simp [step, hr, ht]⟩
    rw [count_fanout]
    simp only [← count_consumers, List.one_le_count_iff]
  · intro hr ht
    simp [step, hr, ht]

/-- **Fan-out for the code as it is.** -/
theorem C18_publish (ops : List Op) (tok m c : Nat) :
    let e := runOps dc dd Ev.init ops
    (e.registered = true → tok = e.token →
        ∃ to, (step dc dd e (.publish tok m)).2 = .delivered to ∧
          to.count c = (if 1 ≤ subsOf e c then 1 else 0) ∧
          (step dc dd e (.publish tok m)).1.published = e.published ++ [m]) ∧
    (e.registered = true → tok ≠ e.token → step dc dd e (.publish tok m) = (e, .errOwner)) :=
  -- `dd` is `true`: the `if dd` of `publish_spec` evaluates
  publish_spec dc dd _ tok m c

theorem delivered_count {e : Ev} {tok m c : Nat} {to : List Nat} (hr : e.registered = true) (ht : tok = e.token)
    (hto : (step dc dd e (.publish tok m)).2 = .delivered to) : to.count c = if 1 ≤ subsOf e c then 1 else 0 := by
  obtain ⟨to', h1, h2, _⟩ := (publish_spec dc dd e tok m c).1 hr ht
  cases h1.symm.trans hto
  exact h2

/-- the full "exactly once" statement: a subscribed process receives each publication exactly once -/
def C18_exactly_once_full (d : Bool) : Prop :=
  ∀ (ops : List Op) (tok m c : Nat),
    let e := runOps dc d Ev.init ops
    e.registered = true → tok = e.token → subsOf e c ≥ 1 →
    ∀ to, (step dc d e (.publish tok m)).2 = .delivered to → to.count c = 1

/-- The code before the repair of D20 (fan-out per relation, no `delivered` set): a process that subscribed by link
*and* by monitor holds two relations and received every publication twice. Kept as a regression statement. -/
theorem C18_D20_before_fix : ¬ C18_exactly_once_full false := by
  intro h
  have := h [.register 7 false 0, .sub 1 false, .sub 1 true] 7 42 1 rfl rfl (by decide) [1, 1] (by decide)
  simp at this

/-- **Exactly once, for the code as it is**: whatever subscriptions a process holds (link, monitor or both), it
receives each accepted publication exactly once. -/
theorem C18_exactly_once : C18_exactly_once_full dd := by
  intro ops tok m c e hr ht hs to hto
  rw [delivered_count hr ht hto, if_pos hs]

/-- and a process without a subscription (never subscribed, unsubscribed, or dead) receives nothing -/
theorem C18_no_subscription (ops : List Op) (tok m c : Nat) :
    let e := runOps dc dd Ev.init ops
    e.registered = true → tok = e.token → subsOf e c = 0 →
    ∀ to, (step dc dd e (.publish tok m)).2 = .delivered to → c ∉ to := by
  intro e hr ht hs to hto
  have h := delivered_count (c := c) hr ht hto
  rw [hs] at h
  exact List.count_eq_zero.mp h

/-- **Snapshot.** A new subscriber is handed the last `min(N, #publications)` publications, in publication order:
the replay buffer is always a suffix of the publication sequence, of length at most N, and the whole sequence
while fewer than N were published. -/
theorem C18_snapshot (ops : List Op) (c : Nat) (mon : Bool) (snap : List Nat) (note : Option Note) :
    let e := runOps dc dd Ev.init ops
    (step dc dd e (.sub c mon)).2 = .subscribed snap note →
    snap.length ≤ e.cap ∧ (∃ pre, e.published = pre ++ snap) ∧ (snap.length < e.cap → snap = e.published) := by
  intro e hs
  obtain ⟨rfl, _⟩ := sub_subscribed hs
  exact (reach_inv dc dd ops).2

/-- `p` is the test the model writes for the relations of kind `b` (`!s.2` for links, `s.2` for monitors) -/
theorem count_kind {l : List (Nat × Bool)} (hnd : l.Nodup) (p : Nat × Bool → Bool) (b : Bool)
    (hp : ∀ s, p s = true ↔ s.2 = b) (c : Nat) :
    ((l.filter p).map (·.1)).count c = if (c, b) ∈ l then 1 else 0 :=
  count_map_of_inj (hnd.filter p) (·.1) (c, b) (fun s hs e => Prod.ext e ((hp s).mp (List.mem_filter.mp hs).2))
    (by rw [List.mem_filter, hp]; exact and_iff_left rfl)

/-- **Unregistration / owner death**: every relation on the event gets exactly one notification of its kind. -/
theorem C18_unregister (ops : List Op) (c : Nat) :
    let e := runOps dc dd Ev.init ops
    e.registered = true →
    ∃ ex dn, (step dc dd e .unregister).2 = .gone ex dn ∧
      ex.count c = (if (c, false) ∈ e.subs then 1 else 0) ∧ dn.count c = (if (c, true) ∈ e.subs then 1 else 0) ∧
      (step dc dd e .unregister).1.subs = [] := by
  intro e hr
  have hnd : e.subs.Nodup := (reach_inv dc dd ops).1
  exact ⟨_, _, by simp only [step, hr]; rfl, count_kind hnd _ false (by simp) c, count_kind hnd _ true (by simp) c,
    by simp [step, hr, Ev.init]⟩

/-- the full statement about producer notifications: `start` exactly when the first live subscription arrives -/
def C18_notify_full (b : Bool) : Prop :=
  ∀ (ops : List Op) (c : Nat) (mon : Bool) (snap : List Nat) (note : Option Note),
    let e := runOps b dd Ev.init ops
    e.notify = true → (step b dd e (.sub c mon)).2 = .subscribed snap note → (note = some .start ↔ e.live = 0)

/-- The code before the repair of D21 (the counter is not decremented when a subscriber terminates): the next first
subscriber produces no `start`. Kept as a regression statement. -/
theorem C18_D21_before_fix : ¬ C18_notify_full false := by
  intro h
  have := h [.register 7 true 0, .sub 1 false, .consumerDies 1] 2 false [] none rfl rfl
  revert this; decide

/-- and `stop` when the last live subscription goes, by unsubscribing or by the subscriber's death -/
theorem C18_counter (ops : List Op) : (runOps dc dd Ev.init ops).counter = (runOps dc dd Ev.init ops).live :=
  runOps_inv (P := fun e => e.counter = e.live) (step_counter dd) ops rfl

/-- **Producer notifications, for the code as it is**: `start` is sent exactly when a subscription arrives while no
subscription is live — after any history, subscriber deaths included. -/
theorem C18_notify : C18_notify_full dc := by
  intro ops c mon snap note e hn hs
  obtain ⟨_, rfl⟩ := sub_subscribed hs
  have hcnt : e.counter = e.live := C18_counter ops
  rw [hn, hcnt]
  cases e.live <;> simp <;> omega

/-- the statement for subscribers anywhere, parametric in the two code shapes -/
def C18_remote_full (f d : Bool) : Prop :=
  ∀ (self : Nat) (consumers : List (Nat × Nat)) (t : Nat × Nat), t ∈ consumers → copies f d self consumers t = 1

/-- **Exactly once on every node, for the code as it is**: whatever the set of relations on the event — any number of
subscribers on any number of nodes, by link, monitor or both (a pair may be listed more than once) — every
subscriber is handed one copy of a publication. -/
theorem C18_remote_exactly_once : C18_remote_full fd dd := by
  have h1 : fd = true := by decide
  have h2 : dd = true := by decide
  rw [h1, h2]
  -- both the list of remote nodes and the local fan-out are `fanout true`, which lists each element once
  have once {l : List Nat} {x : Nat} (h : x ∈ l) : (fanout true l).count x = 1 := by rw [count_fanout]; simp [h]
  intro self consumers t ht
  have hc : (fanout true ((consumers.filter (fun c => c.1 = t.1)).map (·.2))).count t.2 = 1 :=
    once (List.mem_map.mpr ⟨t, List.mem_filter.mpr ⟨ht, by simp⟩, rfl⟩)
  unfold copies
  by_cases hs : t.1 = self
  · simp only [hs, if_true]; rw [← hs]; exact hc
  · simp only [hs, if_false]
    rw [hc, Nat.mul_one]
    exact once (List.mem_map.mpr ⟨t, List.mem_filter.mpr ⟨ht, by simpa using hs⟩, rfl⟩)

/-- a list instead of a set of remote nodes (seeded change C12-2): two subscribers on one remote node get every
publication twice -/
theorem C18_remote_frame_per_subscriber_duplicates : ¬ C18_remote_full false true := by
  intro h
  have := h 0 [(1, 5), (1, 6)] (1, 5) (by simp)
  revert this
  decide

/-- the statement, parametric in the code shape: once the subscription and the publication have both run to their
end, in whatever interleaving, the subscriber has the publication — from the buffer it was handed or from the fan-out -/
def C18_subscribe_no_gap_full (b : Bool) : Prop :=
  ∀ (ls : List SubRace.Lbl) (s : SubRace.S), run (SubRace.step b) SubRace.S.init ls = some s →
    s.snapped = true → s.added = true → s.fanned = true → (s.replay = true ∨ s.live = true)

/-- kept by every step when the relation is inserted first: a snapshot taken after the fan-out finds the publication
pushed, a fan-out run after the snapshot finds the relation added -/
def RaceInv (s : SubRace.S) : Prop :=
  (s.fanned = true → s.pushed = true) ∧ (s.snapped = true → s.added = true) ∧
  (s.fanned = true → s.snapped = true → (s.replay = true ∨ s.live = true))

theorem subrace_inv {ls : List SubRace.Lbl} {s : SubRace.S} (h : run (SubRace.step true) SubRace.S.init ls = some s) :
    RaceInv s := by
  refine run_inv (Inv := RaceInv) ?_ (by simp [RaceInv, SubRace.S.init]) h
  intro s l s' ⟨h1, h2, h3⟩
  fun_cases SubRace.step true s l <;> intro hs <;> cases hs <;> simp_all [RaceInv]

/-- **No gap between replay and live delivery, for the code as it is**: a publication that races with a subscription
is never lost to the subscriber — for every interleaving of {insert relation, read buffer} with {push, fan out}. -/
theorem C18_subscribe_no_gap : C18_subscribe_no_gap_full ab := by
  have h : ab = true := by decide
  rw [h]
  intro ls s hr hsn _ hf
  exact (subrace_inv hr).2.2 hf hsn

/-- reading the buffer before inserting the relation (seeded change C18-1) loses the publication that is pushed and
fanned out in between -/
theorem C18_subscribe_snapshot_first_loses : ¬ C18_subscribe_no_gap_full false := by
  intro h
  have := h [.sSnap, .pPush, .pFan, .sAdd] ⟨true, true, true, true, false, false⟩ (by decide) rfl rfl rfl
  simp at this

/-- non-vacuity: a history with two subscribers, a buffer of 2 and four publications -/
example :
    let e := runOps true true Ev.init [.register 7 true 2, .sub 1 false, .publish 7 10, .publish 7 11, .publish 7 12, .sub 2 true]
    e.last = [11, 12] ∧ e.published = [10, 11, 12] ∧ e.counter = 2 := by decide

end ErgoVerif.Props.C18
