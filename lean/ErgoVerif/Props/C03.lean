import ErgoVerif.Lemmas.Mailbox
import ErgoVerif.Lemmas.Mpsc
import ErgoVerif.Generated.Prio
/-!
# C03 — mailbox ordering: per-sender FIFO within a priority, strict priority classes

`Model/Mailbox.lean`: four FIFO queues, `pick` = one round of the dequeue loop of ProcessRun.
`Model/Mpsc.lean`: the lock-free queue (total order of pushes = order of the head swaps).
`Generated/Prio.lean`: priority → queue of every delivery function, queue of exit/inspect, priority of down
notifications, polling order of every behaviour — regenerated from the source on every run.
-/
namespace ErgoVerif.Props.C03
open ErgoVerif.Mailbox

/-- **Same queue for the same priority, whichever addressing mode**: every local delivery function (send / call by
pid, name, alias; events; self-send; Forward) maps Normal→Main, High→System, Max→Urgent; exit signals and inspect
requests go to Urgent; down notifications are sent with High priority (→ System); every behaviour polls
Urgent, System, Main, Log in this order. -/
theorem C03_same_queue :
    (∀ e ∈ Gen.Prio.prioMaps, e.2 = (queueOfPrio 0, queueOfPrio 1, queueOfPrio 2)) ∧
    Gen.Prio.prioMaps.length = 9 ∧
    (∀ e ∈ Gen.Prio.directPush, e.2 = 0) ∧ Gen.Prio.directPush.length = 2 ∧
    (∀ p ∈ Gen.Prio.downPriority, queueOfPrio p = 1) ∧ Gen.Prio.downPriority.length = 5 ∧
    (∀ e ∈ Gen.Prio.pollOrder, e.2 = [0, 1, 2, 3]) ∧ Gen.Prio.pollOrder.length = 4 := by decide

/-- **Strict priority classes.** Whenever a process picks its next message it takes the oldest message (head of
the FIFO) of the first non-empty queue in polling order: every queue polled earlier is empty at that moment. -/
theorem C03_pick (mb : MB) (m : Msg) (mb' : MB) (h : pick mb [0, 1, 2, 3] = some (m, mb')) :
    ∃ k rest, k ∈ [0, 1, 2, 3] ∧ mb.q k = m :: rest ∧ (∀ j, j < k → mb.q j = []) ∧
      mb'.q k = rest ∧ ∀ j, j ≠ k → mb'.q j = mb.q j := by
  obtain ⟨k, rest, hmem, hk, hk', hoth, hlt⟩ := pick_spec mb _ m mb' h
  refine ⟨k, rest, hmem, hk, fun j hj => hlt (by simp) j ?_ hj, hk', hoth⟩
  -- the queues with a smaller code are all polled
  simp at hmem ⊢; omega

/-- and it refuses to pick only when all four queues are empty -/
theorem C03_pick_none (mb : MB) (h : pick mb [0, 1, 2, 3] = none) : ∀ k, k < 4 → mb.q k = [] := by
  intro k hk
  apply pick_none mb _ h
  simp; omega

/-- nothing is handled twice or invented: handled-from-k plus still-queued-in-k is exactly pushed-into-k -/
theorem C03_conservation (ops : List Op) (k : Nat) :
    let s := runOps [0, 1, 2, 3] St.init ops
    s.handled.filter (fun m => m.queue = k) ++ s.mb.q k = s.pushed.filter (fun m => m.queue = k) :=
  runOps_inv [0, 1, 2, 3] ops inv_init k

/-- **Per-sender FIFO within a priority.** For every interleaving of pushes (by any senders, any priorities) and
picks: the messages handled so far that one sender sent into one queue are a prefix, in sending order, of what
that sender sent into that queue — whichever addressing mode was used (C03_same_queue). -/
theorem C03_fifo (ops : List Op) (sender k : Nat) :
    let s := runOps [0, 1, 2, 3] St.init ops
    (s.handled.filter (fun m => m.sender = sender ∧ m.queue = k)) <+:
      (s.pushed.filter (fun m => m.sender = sender ∧ m.queue = k)) := by
  intro s
  have hpre : s.handled.filter (fun m => m.queue = k) <+: s.pushed.filter (fun m => m.queue = k) :=
    ⟨_, C03_conservation ops k⟩
  have := hpre.filter (fun m => decide (m.sender = sender))
  simpa [List.filter_filter, and_comm] using this

open ErgoVerif.Mpsc in
/-- **Pushes of one producer keep program order** (lib/mpsc.go): in the total order fixed by the atomic head swaps
the items of one producer appear with increasing sequence numbers, for every interleaving of swaps, links and pops;
and the single consumer pops a prefix of that order. -/
theorem C03_program_order (limit : Option Nat) (ops : List Mpsc.Op) (q : Q) (got : List Item)
    (hr : runQ (Q.init limit) ops = some (q, got)) :
    got <+: q.order ∧
    ∀ i j (hi : i < q.cells.length) (hj : j < q.cells.length), i < j →
      q.cells[i].item.producer = q.cells[j].item.producer → q.cells[i].item.seq < q.cells[j].item.seq := by
  obtain ⟨hinv, rfl⟩ := runQ_init hr
  exact ⟨received_prefix q, hinv.sorted⟩

/-- non-vacuity: a mixed history; max-priority overtakes, same-priority keeps order -/
example :
    let m (s p n : Nat) : Msg := ⟨s, p, queueOfPrio p, n⟩
    (runOps [0, 1, 2, 3] St.init
      [.push (m 1 0 0), .push (m 1 0 1), .push (m 2 2 0), .push (m 1 1 0), .pick, .pick, .pick, .pick]).handled.map
      (fun x => (x.sender, x.prio, x.seq)) = [(2, 2, 0), (1, 1, 0), (1, 0, 0), (1, 0, 1)] := by decide

end ErgoVerif.Props.C03
