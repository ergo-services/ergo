import ErgoVerif.Lemmas.Proc
import ErgoVerif.Lemmas.Mpsc
import ErgoVerif.Model.Fallback
import ErgoVerif.Generated.States
/-!
# C02 — local delivery: exactly once, no lost wake-up, truthful send result

Two layers: the counting model of the state-word protocol (`Model/Proc.lean`: every successful push is followed
by a wake-up attempt; the runner re-checks the mailbox after its CAS to sleep) and the identity-level model of the
lock-free queue (`Model/Mpsc.lean`); plus the fallback decision and the delayed-send timer (`Model/Fallback.lean`).
-/
namespace ErgoVerif.Props.C02
open ErgoVerif.Proc

-- unfolds to `true`, which is why `reach_invAll` (stated for `step true`) accepts `Reach kz c`; see `C01.kz`
abbrev kz : Bool := Gen.States.killZombeeReturns

/-- **Conservation.** In every reachable configuration every accepted message (push succeeded, send returned
nil) is either handled or still in the mailbox: nothing is lost or duplicated by the protocol. -/
theorem C02_conservation (c : Cfg) (h : Reach kz c) : c.accepted = c.handled + c.mail :=
  (reach_invAll h).inv.conservation

/-- somebody is always going to look: a sleeping process with mail has a pusher that has not yet made its wake-up
attempt, or a runner that has not yet made its re-check -/
theorem C02_someone_will_look (c : Cfg) (h : Reach kz c) (hs : c.st = .sleep) (hm : c.mail > 0) :
    c.s2 + c.w0 + c.r4 + c.r5 ≥ 1 :=
  (reach_invAll h).wake.1 hs hm

/-- **No lost wake-up.** In every reachable configuration in which no thread of the protocol can take a step
(all senders returned, the runner goroutine ended) and the process sleeps, the mailbox is empty: every accepted
message has been handled without any later traffic being needed to wake the process. -/
theorem C02_no_lost_wakeup (c : Cfg) (h : Reach kz c) (hq : c.quiescent) (hs : c.st = .sleep) :
    c.mail = 0 ∧ c.handled = c.accepted := by
  -- nobody is left to look (`hq`), so there is no mail
  have := C02_someone_will_look c h hs
  have := C02_conservation c h
  unfold Cfg.quiescent at hq
  omega

/-- the same for the start-up window: a process can only be left quiescent in `init` if ProcessInit failed
(messages sent by name during a successful init are looked at by the `run()` that follows it) -/
theorem C02_init_window (c : Cfg) (h : Reach kz c) (hq : c.quiescent) (hs : c.st = .init) : c.initFailed = true := by
  have hw := (reach_invAll h).wake
  unfold Cfg.quiescent at hq
  cases hf : c.initFailed with
  | true => rfl
  | false => have := hw.2 hs hf; omega

open ErgoVerif.Mpsc in
/-- **Exactly once, identity level** (lib/mpsc.go). For every sequence of producer swaps, refusals, links and
consumer pops on a queue (bounded or not): the consumer's output is a prefix of the swap order, contains no item
twice, and never contains an item whose Push reported `false`. -/
theorem C02_queue_exactly_once (limit : Option Nat) (ops : List Op) (q : Q) (got : List Item)
    (hr : runQ (Q.init limit) ops = some (q, got)) :
    got <+: q.order ∧ got.Nodup ∧ ∀ it ∈ q.refused, it ∉ got := by
  obtain ⟨hinv, rfl⟩ := runQ_init hr
  have hpre := received_prefix q
  exact ⟨hpre, (order_nodup hinv).sublist hpre.sublist,
    fun it hit hmem => hinv.not_refused it (hpre.subset hmem) hit⟩

open ErgoVerif.Fallback in
/-- **Fallback.** A message is re-routed to the fallback exactly when the target is alive, its mailbox refused
the push, a fallback is enabled and it is not the target itself; the re-routed message is wrapped with the original
recipient's pid, the configured tag and the unchanged payload. In every other refused case the sender gets an error. -/
theorem C02_fallback {μ : Type} (t : Target) (m : μ) :
    (∀ n p tg m', routeSend t m = .fallback n p tg m' →
        n = t.fbName ∧ p = t.pid ∧ tg = t.fbTag ∧ m' = m ∧ t.alive ∧ t.full ∧ t.fbEnable ∧ t.fbName ≠ t.name) ∧
    (routeSend t m = .delivered m ↔ (t.alive ∧ ¬ t.full)) ∧
    (∀ m', routeSend t m = .delivered m' → m' = m) := by
  -- the five outcomes of `routeSend`; in the last, `n` is `t.fbName`, which the guard says is not `t.name`
  fun_cases routeSend t m <;> simp_all
  rintro _ _ _ _ rfl _ _ _; assumption

open ErgoVerif.Fallback in
/-- invariant of the timer automaton: its state determines how often the send ran and how many cancels returned true -/
private def TInv (t : Timer) : Prop :=
  t.sent = (if t.st = .fired then 1 else 0) ∧
  (t.cancelResults.filter (· = true)).length = (if t.st = .stopped then 1 else 0)

open ErgoVerif.Fallback in
private theorem tinv_step (t : Timer) (o : TOp) (h : TInv t) : TInv (t.step o) := by
  -- expiry, then cancel, each on an armed timer (where both counters are still 0) and on one that is not
  fun_cases Timer.step t o
  · next ha =>
    obtain ⟨hs, hc⟩ := h
    rw [ha] at hs hc
    exact ⟨congrArg (· + 1) hs, hc⟩
  · exact h
  · next ha =>
    obtain ⟨hs, hc⟩ := h
    rw [ha] at hs hc
    exact ⟨hs, congrArg (· + 1) hc⟩
  · exact h   -- a refused cancel records `false`, which the count skips

open ErgoVerif.Fallback in
/-- **Delayed send.** For every interleaving of timer expiry and cancel calls: if some cancel returned true the
message is never sent (and only one cancel can return true); otherwise it is sent at most once, and exactly once
as soon as the timer fired. -/
theorem C02_delayed (ops : List TOp) (t : Timer) (ht : t = ops.foldl Timer.step Timer.init) :
    (true ∈ t.cancelResults → t.sent = 0 ∧ t.st = .stopped) ∧ t.sent ≤ 1 ∧ (t.st = .fired ↔ t.sent = 1) ∧
    (t.cancelResults.filter (· = true)).length ≤ 1 := by
  obtain ⟨hs, hc⟩ : TInv t := ht ▸ List.foldlRecOn ops _ ⟨rfl, rfl⟩ fun t h o _ => tinv_step t o h
  have hmem : true ∈ t.cancelResults → 0 < (t.cancelResults.filter (· = true)).length :=
    fun hm => List.length_pos_of_mem (List.mem_filter.mpr ⟨hm, by simp⟩)
  rw [hc] at hmem ⊢
  rw [hs]
  cases hst : t.st <;> simp [hst] at hmem ⊢ <;> exact hmem

/-- non-vacuity: a reachable quiescent sleeping configuration with two handled messages from racing senders -/
example : ∃ c, Reach true c ∧ c.quiescent ∧ c.st = .sleep ∧ c.handled = 2 :=
  ⟨_, ⟨[.initOk, .storeSleep, .runCas, .runGo, .start, .newSender, .aliveChk, .push, .retNil, .casSleep,
        .newSender, .aliveChk, .push, .link, .recheckEmpty, .link, .runCas, .runGo, .runCas, .start, .pop, .pop,
        .retNil, .casSleep, .recheckEmpty], rfl⟩, by decide⟩

end ErgoVerif.Props.C02
