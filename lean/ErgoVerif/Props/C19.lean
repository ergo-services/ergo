import ErgoVerif.Model.Pool
/-!
# C19 — pool dispatch: each request to exactly one live worker

`Model/Pool.lean` mirrors `Pool.forward`. The message object is forwarded untouched (`Forward` pushes the very
`*gen.MailboxMessage`, so sender and request reference are the original ones): in the model a dispatch is just
the choice of the receiving worker.
-/
namespace ErgoVerif.Props.C19
open ErgoVerif.Pool

/-- what a run of the dispatch loop over the first `n` workers of `ring` has done, by its outcome -/
def Spec (spawnOk : Nat → Bool) (ring : List Worker) (n : Nat) (r : Pool × Out) : Prop :=
  match r.2 with
  | .to w => ∃ x ∈ ring, x.id = w ∧ x.alive = true ∧ (x.limit = 0 ∨ x.len < x.limit)
  | .respawned d nw => (∃ x ∈ ring, x.id = d ∧ x.alive = false) ∧ spawnOk nw = true ∧
      ∃ y ∈ r.1.ring, y.id = nw ∧ y.alive = true ∧ y.len = 1
  | .dropped => ∀ x ∈ ring.take n, (x.alive = true ∧ ¬ (x.limit = 0 ∨ x.len < x.limit)) ∨ x.alive = false

/-- an iteration passes over `x` (full, or dead and not replaced) and goes on with `ring`, which is `ring'` with `x` at
    its tail or gone -/
theorem Spec.skip {spawnOk : Nat → Bool} {ring ring' : List Worker} {n : Nat} {r : Pool × Out}
    (h : Spec spawnOk ring n r) (x : Worker) (hsub : ∀ y ∈ ring, y ∈ x :: ring')
    (hx : (x.alive = true ∧ ¬ (x.limit = 0 ∨ x.len < x.limit)) ∨ x.alive = false)
    (htake : ∀ y ∈ ring'.take n, y ∈ ring.take n) : Spec spawnOk (x :: ring') (n + 1) r := by
  unfold Spec at *
  split
  · next e => simp only [e] at h; obtain ⟨y, hy, h⟩ := h; exact ⟨y, hsub y hy, h⟩
  · next e => simp only [e] at h; obtain ⟨⟨y, hy, h⟩, h2⟩ := h; exact ⟨⟨y, hsub y hy, h⟩, h2⟩
  · next e =>
    simp only [e] at h
    intro y hy
    rcases List.mem_cons.mp (by simpa using hy) with rfl | hy
    · exact hx
    · exact h y (htake y hy)

theorem loop_spec (spawnOk : Nat → Bool) (n : Nat) (p : Pool) : Spec spawnOk p.ring n (forwardLoop spawnOk n p) := by
  -- the branches of `forwardLoop`: no round left; empty ring; head alive with room; alive and full; dead and replaced;
  -- dead and the spawn fails
  fun_induction forwardLoop spawnOk n p
  · simp [Spec]
  · simp [Spec, *]
  · next w rest hr ha hacc => rw [hr]; exact ⟨w, by simp, rfl, ha, by simpa using hacc⟩
  · next n p w rest hr ha hacc ih =>
    -- full: `w` goes back to the tail, behind the `n` workers still to be tried
    rw [hr]
    refine ih.skip w (fun y hy => by simpa [or_comm] using hy) (.inl ⟨ha, by simpa using hacc⟩) fun y hy => ?_
    exact (show List.take n rest <+: List.take n (rest ++ [w]) by
      rw [List.take_append]; exact List.prefix_append _ _).subset hy
  · next w rest hr ha hs _ => rw [hr]; exact ⟨⟨w, by simp, rfl, by simpa using ha⟩, hs, ⟨_, by simp, rfl, rfl, rfl⟩⟩
  · next n p w rest hr ha hs ih =>
    rw [hr]
    exact ih.skip w (fun y hy => List.mem_cons_of_mem _ hy) (.inr (by simpa using ha)) fun y hy => hy

/-- **Exactly one worker, or dropped only when every worker was full (or dead and unspawnable).**
A dispatched message goes to one worker of the ring that was alive and had room; or to the fresh replacement of a
worker found dead; it is dropped only if every worker of the ring was full, or dead with the respawn failing. -/
theorem C19_one_worker (spawnOk : Nat → Bool) (p : Pool) :
    (∀ w, (forward spawnOk p).2 = .to w → ∃ x ∈ p.ring, x.id = w ∧ x.alive = true ∧ (x.limit = 0 ∨ x.len < x.limit)) ∧
    (∀ d nw, (forward spawnOk p).2 = .respawned d nw →
        (∃ x ∈ p.ring, x.id = d ∧ x.alive = false) ∧ spawnOk nw = true ∧
        ∃ y ∈ (forward spawnOk p).1.ring, y.id = nw ∧ y.alive = true ∧ y.len = 1) ∧
    ((forward spawnOk p).2 = .dropped →
        ∀ x ∈ p.ring, (x.alive = true ∧ ¬ (x.limit = 0 ∨ x.len < x.limit)) ∨ x.alive = false) := by
  have h : Spec spawnOk p.ring p.ring.length (forward spawnOk p) := loop_spec spawnOk _ p
  unfold Spec at h
  refine ⟨fun w e => by simpa only [e] using h, fun d nw e => by simpa only [e] using h, fun e => ?_⟩
  simpa only [e, List.take_length] using h

/-- **The ring keeps its size** whenever no respawn fails: after any dispatch the ring has as many workers as before. -/
theorem C19_ring_size (spawnOk : Nat → Bool) (hall : ∀ k, spawnOk k = true) :
    ∀ (n : Nat) (p : Pool), (forwardLoop spawnOk n p).1.ring.length = p.ring.length := by
  intro n p
  fun_induction forwardLoop spawnOk n p <;> simp_all

/-- a skipped (full) worker is never given the message and a live worker with room at the head always is:
    round robin — the chosen worker moves to the tail -/
theorem C19_head_with_room (spawnOk : Nat → Bool) (p : Pool) (w : Worker) (rest : List Worker)
    (hr : p.ring = w :: rest) (ha : w.alive = true) (hroom : w.limit = 0 ∨ w.len < w.limit) :
    (forward spawnOk p).2 = .to w.id ∧ (forward spawnOk p).1.ring = rest ++ [{ w with len := w.len + 1 }] := by
  unfold forward
  rw [hr]
  simp only [List.length_cons, forwardLoop, hr, ha, if_true]
  have : (w.limit == 0 || decide (w.len < w.limit)) = true := by
    rcases hroom with h | h <;> simp [h]
  simp [this]

/-- non-vacuity: pool of 3 workers with mailbox 1; worker 0 full, worker 1 dead → the message goes to the replacement -/
example : (forward (fun _ => true) ⟨[⟨0, true, 1, 1⟩, ⟨1, false, 0, 1⟩, ⟨2, true, 0, 1⟩], 3, 1, 0, 0, 0⟩).2 = .respawned 1 3 := by decide
example : (forward (fun _ => true) ⟨[⟨0, true, 1, 1⟩, ⟨1, true, 1, 1⟩], 2, 1, 0, 0, 0⟩).2 = .dropped := by decide

end ErgoVerif.Props.C19
