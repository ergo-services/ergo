import ErgoVerif.Model.Flusher
import ErgoVerif.Generated.Flusher
/-!
# C12 / C13 — the byte stream of a connection is the frames in the order they were written

Every frame of the inter-node protocol is handed to `lib.flusher.Write` in one call. The stream theorems say what the
socket gets, for every sequence of writes, timer runs and late timer runs, any buffer size and any frame sizes:

* `flusher_stream`      — bytes given to the socket ++ bytes still buffered = the accepted writes (and keep-alives),
                          concatenated in the order they were accepted: nothing lost, duplicated, reordered or split by
                          another frame
* `flusher_no_stranded` — whenever bytes are buffered a flush is pending and a timer run is scheduled
* `flusher_fire_flushes`— the scheduled run leaves the buffer empty
* `flusher_keepalive_at_boundary` — a keep-alive is only written when the buffer is empty, i.e. never inside a frame
* `flusher_buf_bound`   — the buffer never holds more than its size
-/
namespace ErgoVerif.Props.C12Flusher
open ErgoVerif.Flusher

theorem bufWrite_stream (cap : Nat) (buf : List Nat) (out : List (List Nat)) (p : List Nat) :
    (bufWrite cap buf out p).2.flatten ++ (bufWrite cap buf out p).1 = out.flatten ++ buf ++ p := by
  fun_cases bufWrite cap buf out p <;> simp +zetaDelta [*]

theorem bufFlush_stream (buf : List Nat) (out : List (List Nat)) :
    (bufFlush buf out).2.flatten ++ (bufFlush buf out).1 = out.flatten ++ buf := by
  fun_cases bufFlush buf out <;> simp [*]

theorem bufFlush_empty (buf : List Nat) (out : List (List Nat)) : (bufFlush buf out).1 = [] := by
  unfold bufFlush; split <;> rfl

theorem bufWrite_bound (cap : Nat) (buf : List Nat) (out : List (List Nat)) (p : List Nat)
    (h : buf.length ≤ cap) : (bufWrite cap buf out p).1.length ≤ cap := by
  -- fits; buffer empty: written through; else fill and flush, then the rest fits or is written through
  fun_cases bufWrite cap buf out p
  · simp; omega
  · simp
  · assumption
  · simp

structure Inv (s : St) : Prop where
  stream : s.sent ++ s.buf = s.log.flatten
  pend : s.buf ≠ [] → s.pending = true
  arm : s.pending = true → s.armed = true

theorem inv_init : Inv init := ⟨by simp [init, St.sent], by simp [init], by simp [init]⟩

theorem callback_inv (cap : Nat) (ka : Option (List Nat)) (s : St)
    (hs : s.sent ++ s.buf = s.log.flatten) (hp : s.buf ≠ [] → s.pending = true) : Inv (callback cap ka s) := by
  fun_cases callback cap ka s      -- pending: flush; idle without keep-alive; idle: keep-alive written and flushed
  · exact ⟨by simp only [St.sent]; rw [bufFlush_stream]; exact hs, fun h => absurd (bufFlush_empty _ _) h, nofun⟩
  · next hpn => exact ⟨hs, hp, fun h => absurd h hpn⟩
  · refine ⟨?_, fun h => absurd (bufFlush_empty _ _) h, fun _ => rfl⟩
    simp only [St.sent] at hs ⊢
    rw [bufFlush_stream, bufWrite_stream]
    simp [← hs]

theorem step_inv (cap : Nat) (ka : Option (List Nat)) (s : St) (e : Ev) (h : Inv s) : Inv (step cap ka s e) := by
  fun_cases step cap ka s e      -- write; the scheduled run, armed or not; a late run
  · refine ⟨?_, fun _ => rfl, ?_⟩
    · have := h.stream
      simp only [St.sent] at this ⊢
      rw [bufWrite_stream]
      simp [← this]
    · intro _
      cases hp : s.pending
      · rfl
      · exact h.arm hp
  · exact callback_inv cap ka _ h.stream h.pend
  · exact h
  · exact callback_inv cap ka s h.stream h.pend

theorem run_inv {P : St → Prop} (cap : Nat) (ka : Option (List Nat)) (hstep : ∀ s e, P s → P (step cap ka s e))
    (tr : List Ev) {s : St} (h : P s) : P (run cap ka s tr) := by
  induction tr generalizing s with
  | nil => exact h
  | cons e es ih => exact ih (hstep s e h)

theorem reach_inv (cap : Nat) (ka : Option (List Nat)) (tr : List Ev) : Inv (run cap ka init tr) :=
  run_inv cap ka (step_inv cap ka) tr inv_init

/-- what the socket got, followed by what is still buffered, is exactly the accepted writes (and keep-alives) in order -/
theorem flusher_stream (cap : Nat) (ka : Option (List Nat)) (tr : List Ev) :
    (run cap ka init tr).sent ++ (run cap ka init tr).buf = (run cap ka init tr).log.flatten :=
  (reach_inv cap ka tr).stream

/-- buffered bytes are never stranded: a flush is pending and a run of the timer callback is scheduled -/
theorem flusher_no_stranded (cap : Nat) (ka : Option (List Nat)) (tr : List Ev)
    (h : (run cap ka init tr).buf ≠ []) :
    (run cap ka init tr).pending = true ∧ (run cap ka init tr).armed = true :=
  have i := reach_inv cap ka tr
  ⟨i.pend h, i.arm (i.pend h)⟩

/-- and that run empties the buffer: after it, everything accepted so far has been given to the socket -/
theorem flusher_fire_flushes (cap : Nat) (ka : Option (List Nat)) (tr : List Ev)
    (h : (run cap ka init tr).buf ≠ []) :
    (step cap ka (run cap ka init tr) .fire).buf = [] ∧
    (step cap ka (run cap ka init tr) .fire).sent = (run cap ka init tr).log.flatten := by
  have i := reach_inv cap ka tr
  have hp := i.pend h
  simp only [step, i.arm hp, if_true, callback, hp]
  refine ⟨bufFlush_empty _ _, ?_⟩
  have j := bufFlush_stream (run cap ka init tr).buf (run cap ka init tr).out
  rw [bufFlush_empty, List.append_nil] at j
  rw [← i.stream]; exact j

/-- a keep-alive is written only when nothing is buffered: it never lands inside a frame, whatever the buffer size -/
theorem flusher_keepalive_at_boundary (cap : Nat) (k : List Nat) (tr : List Ev) (e : Ev)
    (he : e = .fire ∨ e = .stale)
    (hk : (step cap (some k) (run cap (some k) init tr) e).log ≠ (run cap (some k) init tr).log) :
    (run cap (some k) init tr).buf = [] := by
  have i := reach_inv cap (some k) tr
  cases hb : (run cap (some k) init tr).buf with
  | nil => rfl
  | cons x xs =>
    exfalso
    have hp := i.pend (by rw [hb]; simp)
    apply hk
    rcases he with he | he <;> subst he
    · simp only [step]
      split
      · simp [callback, hp]
      · rfl
    · simp [step, callback, hp]

theorem callback_bound {cap : Nat} (ka : Option (List Nat)) {s : St} (h : s.buf.length ≤ cap) :
    (callback cap ka s).buf.length ≤ cap := by
  fun_cases callback cap ka s      -- as in `callback_inv`
  · simp +zetaDelta [bufFlush_empty]
  · exact h
  · simp +zetaDelta [bufFlush_empty]

/-- the buffer never exceeds its size -/
theorem flusher_buf_bound (cap : Nat) (ka : Option (List Nat)) (tr : List Ev) :
    (run cap ka init tr).buf.length ≤ cap := by
  refine run_inv (P := fun s => s.buf.length ≤ cap) cap ka (fun s e h => ?_) tr (Nat.zero_le _)
  fun_cases step cap ka s e      -- as in `step_inv`
  · exact bufWrite_bound cap _ _ _ h
  · exact callback_bound ka h
  · exact h
  · exact callback_bound ka h

/-- the code as it is: `Write` writes only into the bufio writer, marks pending and arms the timer; both timer callbacks
    flush, clear pending and re-arm (regenerated facts) -/
theorem flusher_code_shape :
    ErgoVerif.Gen.Flusher.writeTargets = ["f.writer"] ∧ ErgoVerif.Gen.Flusher.writeArmsTimer = true ∧
    ErgoVerif.Gen.Flusher.callbacksFlushAndRearm = 2 ∧ ErgoVerif.Gen.Flusher.callbacks = 2 ∧
    ErgoVerif.Gen.Flusher.underLock = true := by
  decide

def expectedWriteShape : String :=
  "f.Lock(); defer f.Unlock(); l:=len(); for {n,e:=f.writer.Write(); if e != nil {return}; l-=n; if l > 0 {continue}; break}; if f.pending {return}; f.pending=true; f.timer.Reset(); return"
def expectedKeepAliveCallback : String :=
  "NewFlusherWithKeepAlive: f.Lock(); defer f.Unlock(); if f.pending == false {f.writer.Write(); if err:=f.writer.Flush(); err != nil {return}; f.timer.Reset(); return}; f.writer.Flush(); f.pending=false; f.timer.Reset()"
def expectedCallback : String :=
  "NewFlusher: f.Lock(); defer f.Unlock(); if f.pending == false {return}; f.writer.Flush(); f.pending=false; f.timer.Reset()"

/-- the statement skeletons of `Write` and of the two callbacks are the ones `step` and `callback` transcribe -/
theorem flusher_code_skeleton :
    ErgoVerif.Gen.Flusher.writeShape = expectedWriteShape ∧
    ErgoVerif.Gen.Flusher.callbackShapes = [expectedKeepAliveCallback, expectedCallback] :=
  ⟨rfl, rfl⟩

/-! non-vacuity: a frame larger than the buffer behind a small buffered one -/
example : (run 4 none init [.write [1, 2], .write [3, 4, 5, 6, 7, 8, 9], .fire]).out = [[1, 2, 3, 4], [5, 6, 7, 8, 9]] := by decide
example : (run 4 (some [0]) init [.fire, .write [1], .stale]).out = [[0], [1]] := by decide

end ErgoVerif.Props.C12Flusher
