import ErgoVerif.Lemmas.Link
import ErgoVerif.Generated.Order
/-!
# C13 — network FIFO between a pair of processes

`Link.step` mirrors the ordered path of a `proto` connection (sender link choice, per-link FIFO
with arbitrary relative delay, receive-queue choice, one worker per queue, pool join / link loss);
all index arithmetic is the generated translation of the Go expressions (`Gen.Arith`).

* `C13_full` — the property as stated (all ids, pool changes allowed) — is refuted by the current code:
  `C13_counterexample` (a link joins between two sends), `C13_counterexample_drop` (a link is lost),
  `C13_counterexample_redial` (a lost link is re-dialed into its slot).
* `C13_partial` — constant pool, both order bytes non-zero, the pair's sends keep order ⇒ for EVERY
  interleaving of link deliveries and queue workers the pair's messages are routed in send order
  (delivered|pair is a prefix of sent|pair; sequence numbers strictly increase).
* D13 (an id ≡ 0 mod 255 gave order byte 0 = round robin) is repaired in the repository
  (`uint8(id%255) + 1` at all 65 sites); `orderByte_ne_zero` discharges the id hypotheses, giving
  `C13_constant_pool` for ALL ids.
-/
namespace ErgoVerif.Props.C13
open ErgoVerif.Link ErgoVerif.Gen.Arith

/-- order keeping is on for every send of the trace (the default) -/
def KeepAll (tr : List Ev) : Prop := ∀ e ∈ tr, ∀ a b k, e = Ev.send a b k → k = true

/-- the property at full strength: for every pool, every number of receive queues, every trace of sends,
    link deliveries in any relative order, worker steps, joins and link losses, and every pair of ids, the
    pair's messages are handed to the receiving node's router in the order they were sent
    (messages may be lost with a lost link — that is C12's subject — but never overtake each other). -/
def C13_full : Prop :=
  ∀ (pool : List Nat) (nq : Nat) (tr : List Ev) (src dst : Nat), 0 < nq → KeepAll tr →
    ((run (init pool nq) tr).delivered.filter (pair src dst)).Sublist
      ((run (init pool nq) tr).sent.filter (pair src dst))

/-- pool change: sender 2 (order byte 3) uses link `3 % 2 = 1`; a third link joins; now `3 % 3 = 0`; the second
    frame arrives first. -/
theorem C13_counterexample : ¬ C13_full := by
  intro h
  have := h [0, 1] 8 [.send 2 1 true, .join 2, .send 2 1 true, .deliver 0, .work 2, .deliver 1, .work 2] 2 1
    (by decide) (by intro e he a b k hk; simp at he; rcases he with rfl | rfl | rfl | rfl | rfl | rfl | rfl <;> simp_all)
  revert this
  decide

/-- the same with a link LOSS instead of a join (`pool[i] = pool[0]; pool = pool[1:]` renumbers the links) -/
theorem C13_counterexample_drop :
    ¬ ((run (init [0, 1, 2] 12) [.send 1 1 true, .drop 0, .send 1 1 true, .deliver 1, .work 2, .deliver 2, .work 2]).delivered.filter (pair 1 1)).Sublist
      ((run (init [0, 1, 2] 12) [.send 1 1 true, .drop 0, .send 1 1 true, .deliver 1, .work 2, .deliver 2, .work 2]).sent.filter (pair 1 1)) := by
  decide

/-- the same when a lost link is re-dialed into its pool slot: frames still buffered on the old socket can be read by the
    peer after frames sent on the new one -/
theorem C13_counterexample_redial :
    ¬ ((run (init [0, 1] 8) [.send 1 1 true, .redial 0 2, .send 1 1 true, .deliver 2, .work 2, .deliver 0, .work 2]).delivered.filter (pair 1 1)).Sublist
      ((run (init [0, 1] 8) [.send 1 1 true, .redial 0 2, .send 1 1 true, .deliver 2, .work 2, .deliver 0, .work 2]).sent.filter (pair 1 1)) := by
  decide

/-- ids that differ by a multiple of 255 share a byte (so 255 classes; nothing else is lost) -/
theorem orderByte_mod (x : Nat) : orderByte x = x % 255 + 1 := by
  -- neither conversion to `uint8` truncates: `x % 255 < 255`
  have h : x % 255 < 255 := Nat.mod_lt _ (by decide)
  show (x % 255 % 256 + 1) % 256 = x % 255 + 1
  rw [Nat.mod_eq_of_lt (Nat.lt_succ_of_lt h), Nat.mod_eq_of_lt (Nat.succ_lt_succ h)]

/-- D13 repaired (`uint8(id%255) + 1`): the order byte derived from an id is never 0, i.e. an id can no longer
    select round robin by accident; only `KeepNetworkOrder = false` and the constant-0 control replies do -/
theorem orderByte_ne_zero (x : Nat) : orderByte x ≠ 0 := by
  rw [orderByte_mod]; exact Nat.succ_ne_zero _

theorem orderByte_range (x : Nat) : 1 ≤ orderByte x ∧ orderByte x ≤ 255 := by
  rw [orderByte_mod]; exact ⟨Nat.le_add_left .., Nat.mod_lt _ (by decide)⟩

/-- the old D13 witnesses (sender id 255, receiver id 510) are now routed in order under the same adversarial
    schedules -/
example : ((run (init [0, 1] 8) [.send 255 1 true, .send 255 1 true, .deliver 0, .deliver 1, .work 2, .deliver 0, .deliver 1, .work 2]).delivered.map (·.seq)) = [0, 1] := by
  decide
example : ((run (init [0] 4) [.send 1 510 true, .send 1 510 true, .deliver 0, .deliver 0, .work 2, .work 1, .work 1]).delivered.map (·.seq)) = [0, 1] := by
  decide

/-- **C13_partial**: constant pool, non-zero order bytes, the pair's sends keep order ⇒ in every reachable
    state, for every interleaving, what was routed for the pair is a prefix of what was sent for the pair. -/
theorem C13_partial (pool : List Nat) (nq : Nat) (tr : List Ev) (src dst : Nat)
    (hnp : ∀ e ∈ tr, e.isPoolChange = false)
    (hk : ∀ e ∈ tr, ∀ k, e = Ev.send src dst k → k = true)
    (hs : orderByte src ≠ 0) (hd : orderByte dst ≠ 0) :
    (run (init pool nq) tr).delivered.filter (pair src dst) <+:
      (run (init pool nq) tr).sent.filter (pair src dst) := by
  have h := run_inv hs hd tr (inv_init pool nq src dst) hnp hk
  rw [← h.pipe, List.append_assoc]
  exact List.prefix_append _ _

/-- nothing is invented or duplicated: with the hypotheses of `C13_partial`, once every link and queue is
    drained the pair's deliveries are exactly the pair's sends -/
theorem C13_partial_complete (pool : List Nat) (nq : Nat) (tr : List Ev) (src dst : Nat)
    (hnp : ∀ e ∈ tr, e.isPoolChange = false)
    (hk : ∀ e ∈ tr, ∀ k, e = Ev.send src dst k → k = true)
    (hs : orderByte src ≠ 0) (hd : orderByte dst ≠ 0)
    (hl : ∀ l, (run (init pool nq) tr).links l = []) (hq : ∀ q, (run (init pool nq) tr).queues q = []) :
    (run (init pool nq) tr).delivered.filter (pair src dst) = (run (init pool nq) tr).sent.filter (pair src dst) := by
  have h := run_inv hs hd tr (inv_init pool nq src dst) hnp hk
  rw [← h.pipe, hl, hq]; simp

/-- **constant pool, all ids**: with the repaired order byte no hypothesis on the ids is left — for every pool, every
    number of queues, every pair of ids and every interleaving without a pool change, order is kept. -/
theorem C13_constant_pool (pool : List Nat) (nq : Nat) (tr : List Ev) (src dst : Nat)
    (hnp : ∀ e ∈ tr, e.isPoolChange = false)
    (hk : ∀ e ∈ tr, ∀ k, e = Ev.send src dst k → k = true) :
    (run (init pool nq) tr).delivered.filter (pair src dst) <+:
      (run (init pool nq) tr).sent.filter (pair src dst) :=
  C13_partial pool nq tr src dst hnp hk (orderByte_ne_zero src) (orderByte_ne_zero dst)

/-- the same in the form the harness oracle checks: the sequence numbers the receiver sees for the pair
    are strictly increasing -/
theorem C13_constant_pool_seq (pool : List Nat) (nq : Nat) (tr : List Ev) (src dst : Nat)
    (hnp : ∀ e ∈ tr, e.isPoolChange = false)
    (hk : ∀ e ∈ tr, ∀ k, e = Ev.send src dst k → k = true) :
    (((run (init pool nq) tr).delivered.filter (pair src dst)).map (·.seq)).Pairwise (· < ·) := by
  have hp := (C13_constant_pool pool nq tr src dst hnp hk).sublist
  have hseq : SeqOk (run (init pool nq) tr) := run_seqOk tr (by simp [SeqOk, init])
  have h1 : (((run (init pool nq) tr).sent.filter (pair src dst)).map (·.seq)).Sublist
      (List.range (run (init pool nq) tr).sent.length) := by
    rw [← hseq]; exact List.filter_sublist.map _
  exact List.Pairwise.sublist ((hp.map _).trans h1) List.pairwise_lt_range

/-- all `order` / `orderPeer` definitions in connection.go are either the constant 0 (explicit round robin for
    control replies) or the single id-dependent form `orderByte` the model uses -/
theorem sites_uniform : idForms = 1 ∧ orderSites.all (fun s => decide (s.form ≤ 1)) = true := by
  decide

/-- the process-to-process data paths derive the link from the sender id and the wire byte from the receiver id
    (or, for name-addressed sends, both from the sender id) and reset both when KeepNetworkOrder is off -/
theorem data_paths_wired :
    (["SendPID", "CallPID"].all fun m =>
      wireTable.any fun w => w.method == m && w.linkOperand == "from.ID" && w.wireOperand == "to.ID" && w.keepReset) = true ∧
    (["SendAlias", "CallAlias"].all fun m =>
      wireTable.any fun w => w.method == m && w.linkOperand == "from.ID" && w.wireOperand == "to.ID[1]" && w.keepReset) = true ∧
    (["SendProcessID", "CallProcessID"].all fun m =>
      wireTable.any fun w => w.method == m && w.linkOperand == "from.ID" && w.wireOperand == "from.ID" && w.keepReset) = true := by
  decide

/-- the `keep` flag of a modelled send is the process's own KeepNetworkOrder setting: every gen.MessageOptions literal in
    node/process.go and node/meta.go takes the field from `p.keeporder` / `m.p.keeporder`, and no code path sets the
    field of an options value to anything else afterwards (so an important-delivery send, a call, a forward and a
    meta-process send are pinned to the link exactly like a plain send) -/
theorem C13_code_shape_keeporder :
    0 < ErgoVerif.Gen.Order.keepOrderFromSetting ∧ ErgoVerif.Gen.Order.keepOrderOther = [] := by
  decide

/-! ### non-vacuity -/

example : orderByte 1001 = 237 ∧ orderByte 1020 = 1 ∧ orderByte 254 = 255 := by decide
example : (run (init [0, 1, 2] 12)
    [.send 1001 1005 true, .send 1002 1005 true, .send 1001 1005 true, .deliver 0, .deliver 1, .work 1, .work 1]).delivered.length = 2 := by
  decide
example : ∀ e ∈ [Ev.send 1001 1005 true, .deliver 0, .work 1], e.isPoolChange = false := by decide

end ErgoVerif.Props.C13
