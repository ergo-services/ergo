import ErgoVerif.Lemmas.Proc
import ErgoVerif.Generated.States
/-!
# C01 — serial execution: one callback of a process at a time

Model: `Model/Proc.lean` (state-word protocol of run / Kill / waitResponse / spawn / send sites,
unbounded senders and killers by counting abstraction). `kz` is regenerated from `Kill`'s switch.
-/
namespace ErgoVerif.Props.C01
open ErgoVerif.Proc

-- `kz` unfolds to `true`: that is why `reach_invAll`, stated for `step true`, accepts `Reach kz c` below. A regenerated
-- `false` makes these proofs fail, as it should.
/-- the code as it is now -/
abbrev kz : Bool := Gen.States.killZombeeReturns

/-- the state codes the model's `St` stands for are the ones in gen/process.go -/
theorem C01_state_codes :
    stCode .init = Gen.States.procInit ∧ stCode .sleep = Gen.States.procSleep ∧
    stCode .running = Gen.States.procRunning ∧ stCode .wait = Gen.States.procWait ∧
    stCode .terminated = Gen.States.procTerminated ∧ stCode .zombee = Gen.States.procZombee := by decide

/-- the distinct power-of-two codes make the `(state & mask) == state` tests of isAlive & co. exact membership tests -/
theorem C01_alive_mask : ∀ s : St, alive s = ((stCode s &&& (1 ||| 2 ||| 4 ||| 8)) == stCode s) := by
  intro s; cases s <;> decide

/-- **Serial execution.** In every reachable configuration — any number of concurrent senders, wakers and
killers, any interleaving of their atomic steps with the runner's — at most one thread executes a callback
of the process (ProcessInit, ProcessRun = message/request/event/exit/inspect handling, ProcessTerminate). -/
theorem C01_serial (c : Cfg) (h : Reach kz c) : c.inCallbacks ≤ 1 := by
  -- `i0`, `rb` and `terms ≥ tm` are three of the token's summands
  have hi := (reach_invAll h).inv
  have := hi.token
  have := hi.tm_le
  unfold Cfg.inCallbacks
  unfold Cfg.RO Cfg.fin at *
  omega

/-- at most one thread holds the right to run callbacks ("owner token"), whatever the state word -/
theorem C01_single_owner (c : Cfg) (h : Reach kz c) :
    c.w1 + c.r0 + c.rb + c.r3 + c.re + c.rp + c.rk + c.k2 ≤ 1 := by
  have := (reach_invAll h).inv.token
  unfold Cfg.RO at this
  omega

/-- the shape of `Kill`'s switch the model's `kSwapZ` mirrors: return at once on running / wait (/ zombee),
    store terminated back on terminated, finalise otherwise -/
theorem C01_kill_switch :
    Gen.States.killReturnsOn = [Gen.States.procRunning, Gen.States.procWait, Gen.States.procZombee] ∧
    Gen.States.killStoresTerminatedOn = [Gen.States.procTerminated] := by decide

/-- The code before the repair of defect D7 (no `case Zombee` in `Kill`): two Kills on a running process
let ProcessTerminate start while the message handler is still executing. 11 atomic steps. -/
theorem C01_D7_before_fix : ∃ ls c, run (step false) init ls = some c ∧ c.inCallbacks = 2 :=
  ⟨[.initOk, .storeSleep, .runCas, .runGo, .start, .newKiller, .newKiller, .kSwapZ, .kSwapZ, .kSwapT, .termEnterK],
    _, rfl, by decide⟩

/-- non-vacuity: a reachable configuration with a callback executing and senders, wakers, killers in flight -/
example : ∃ c, Reach true c ∧ c.inCallbacks = 1 ∧ c.s2 = 1 ∧ c.k0 = 1 :=
  ⟨_, ⟨[.initOk, .storeSleep, .runCas, .runGo, .start, .newSender, .aliveChk, .push, .newKiller], rfl⟩, by decide⟩

end ErgoVerif.Props.C01
