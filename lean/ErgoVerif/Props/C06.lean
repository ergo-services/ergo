import ErgoVerif.Lemmas.Ref
import ErgoVerif.Model.Registry
import ErgoVerif.Model.RegRace
import ErgoVerif.Generated.RegRace
import ErgoVerif.Generated.Unreg
/-!
# C06 — registry integrity: unique identities, complete release on termination

* identifiers: `Generated/Ref.lean` is node.MakeRef translated operator by operator; references, aliases and
  event tokens are all minted by it from one atomic counter.
* names: `Model/Registry.lean`, the RegisterName / spawn-with-name race on one name.
* release of link/monitor relations on termination: stated over the TargetManager model in `Props/C04.lean`
  (`C04_release`), checked on the real node by the C06 harness (names, aliases, events, relations as target and as
  requester); that unregisterProcess also cleans the requester side is a regenerated fact (`Generated/Unreg.lean`).
* RegisterName by a third party against the termination of the process: `Model/RegRace.lean`, one name, one registrant.
-/
namespace ErgoVerif.Props.C06

/-- **References never repeat.** `MakeRef` is injective in the counter value: two references (aliases, event
tokens) of one node incarnation are equal only if they were minted from the same counter value, i.e. no repetition
before the 64-bit counter itself wraps (2^64 calls). -/
theorem C06_makeRef_inj (a b : BitVec 64)
    (h0 : Gen.Ref.makeRef0 a = Gen.Ref.makeRef0 b) (h1 : Gen.Ref.makeRef1 a = Gen.Ref.makeRef1 b)
    (_h2 : Gen.Ref.makeRef2 a = Gen.Ref.makeRef2 b) : a = b :=
  Ref.makeRef_inj a b h0 h1

/-- the counter can be read back from the first two words -/
theorem C06_makeRef_recover (a : BitVec 64) :
    (Gen.Ref.makeRef1 a).toNat * 2^18 + (Gen.Ref.makeRef0 a).toNat = a.toNat ∧ (Gen.Ref.makeRef0 a).toNat < 2^18 :=
  Ref.makeRef_recover a

/-- The code before the repair of D1 (`ID[1] = id >> 46`): the reference repeats after 262144 calls. -/
theorem C06_D1_before_fix :
    ∃ a b : BitVec 64, a ≠ b ∧ (a &&& ((2#64 <<< 17) - 1#64), a >>> 46) = (b &&& ((2#64 <<< 17) - 1#64), b >>> 46) :=
  ⟨1#64, 262145#64, by decide, by decide⟩

open ErgoVerif.Registry in
/-- **A name belongs to at most one process.** In every reachable configuration of the registration race at most
one claimant holds (or is completing its hold on) the name, and it does so exactly when the name is in the table. -/
theorem C06_name_unique (c : Cfg) (h : Reach c) :
    c.c2 + c.ok ≤ 1 ∧ (c.held = true ↔ c.c2 + c.ok = 1) := by
  obtain ⟨h1, h2, -⟩ := reach_inv h
  cases hh : c.held <;> lia

open ErgoVerif.Registry in
/-- **Racing claimants: exactly one succeeds.** When any number n ≥ 1 of processes race for a free name and nobody
unregisters it, then once all calls have returned exactly one returned nil, the others got ErrTaken, and the table
holds the name. -/
theorem C06_race_one_winner (c : Cfg) (h : Reach c) (hq : c.c0 = 0 ∧ c.c1 = 0 ∧ c.c2 = 0)
    (hn : c.n ≥ 1) (hr : c.released = 0) : c.okEver = 1 ∧ c.err = c.n - 1 ∧ c.held = true := by
  obtain ⟨h1, h2, h3, h4, h5⟩ := reach_inv h
  cases hh : c.held <;> lia

open ErgoVerif.Registry in
/-- after the holder is unregistered (or terminates) the name can be claimed again: a later claimant succeeds -/
theorem C06_name_reusable :
    ∃ c, Reach c ∧ c.released = 1 ∧ c.okEver = 2 ∧ c.held = true :=
  ⟨_, ⟨[.newClaim, .cas, .store, .assign, .unreg, .newClaim, .cas, .store, .assign], rfl⟩, by decide⟩

open ErgoVerif.Registry in
/-- non-vacuity: three racing claimants, one winner -/
example : ∃ c, Reach c ∧ c.n = 3 ∧ c.okEver = 1 ∧ c.err = 2 :=
  ⟨_, ⟨[.newClaim, .newClaim, .newClaim, .cas, .cas, .store, .cas, .store, .assign, .store], rfl⟩, by decide⟩

/-- a terminated process appears in no relation as requester: unregisterProcess calls CleanupConsumer (regenerated; the
repaired D16 — the release histories of the harness query the node's TargetManager after every termination) -/
theorem C06_code_shape_requester_side : ErgoVerif.Gen.Unreg.cleansRequesterSide = true := by decide

section RegRace
open ErgoVerif.RegRace

/-- full statement, parametric in the code shape: whatever the interleaving of RegisterName's steps with the
terminator's, once both are done the name table holds no entry for the terminated process -/
def C06_register_vs_termination_full (rc : Bool) : Prop :=
  ∀ ls c, RegRace.run rc RegRace.init ls = some c → (c.r = .doneOk ∨ c.r = .doneErr) → c.t = .done → c.inTable = false

/-- the code before the repair of D33 (no second look at the process): the liveness check passes · the process terminates, its
unregisterProcess finds neither `registered` nor a name · claim, table insert: the name is held by a dead process for ever.
Kept as a regression statement. -/
theorem C06_register_vs_termination_before_fix : ¬ C06_register_vs_termination_full false := by
  intro h
  have := h [.rStep, .tStep, .tStep, .tStep, .rStep, .rStep, .rStep]
    ⟨false, true, true, true, false, .doneOk, .done⟩ (by decide) (Or.inl rfl) rfl
  simp at this

namespace RegRaceProof

/-- the inductive invariant of the race with the second look, as a decidable predicate: what the terminator knows, and
    what holds at each program point of the registration.  The lines for `doneOk` and `doneErr` carry the conclusion. -/
def good (c : Cfg) : Bool :=
  ((c.t == .markDead) == c.alive) && (!(c.t == .markDead || c.t == .readReg) || !c.saw) && (!c.saw || c.registered) &&
  match c.r with
  | .checkAlive | .cas => !c.registered && !c.inTable && !c.nameSet
  | .store => c.registered && !c.inTable && !c.nameSet
  | .setName => c.registered && c.inTable && !c.nameSet
  | .recheck => c.registered && c.nameSet
  | .doneOk => c.registered && c.nameSet && (c.t != .del || c.saw) && (c.t != .done || !c.inTable)
  | .doneErr => !c.inTable

def allCfgs : List Cfg :=
  [true, false].flatMap fun a => [true, false].flatMap fun b => [true, false].flatMap fun c => [true, false].flatMap fun d =>
  [true, false].flatMap fun e =>
  [RPc.checkAlive, .cas, .store, .setName, .recheck, .doneOk, .doneErr].flatMap fun r =>
  [TPc.markDead, .readReg, .del, .done].map fun t => ⟨a, b, c, d, e, r, t⟩

theorem all_mem (c : Cfg) : c ∈ allCfgs := by
  obtain ⟨a, b, c, d, e, r, t⟩ := c
  simp only [allCfgs, List.mem_flatMap, List.mem_map]
  exact ⟨a, by cases a <;> simp, b, by cases b <;> simp, c, by cases c <;> simp, d, by cases d <;> simp,
    e, by cases e <;> simp, r, by cases r <;> simp, t, by cases t <;> simp, rfl⟩

/-- `good` is inductive: 896 configurations, two labels, by evaluation -/
theorem step_good : ∀ c l c', good c = true → RegRace.step true c l = some c' → good c' = true :=
  inv_of_sweep allCfgs all_mem [.rStep, .tStep] (by intro a; cases a <;> simp) good (RegRace.step true)
    (by decide +kernel)

theorem run_good (ls : List Lbl) (c c' : Cfg) (h : good c = true) (hr : RegRace.run true c ls = some c') :
    good c' = true := by
  fun_induction RegRace.run true c ls
  · cases hr; exact h
  · cases hr
  · next c l ls c1 hs ih => exact ih (step_good c l c1 h hs) hr

end RegRaceProof

/-- with the second look at the process the statement holds for every interleaving -/
theorem C06_register_vs_termination_with_recheck : C06_register_vs_termination_full true := by
  intro ls c hr hdone ht
  have hg := RegRaceProof.run_good ls RegRace.init c (by decide) hr
  rcases hdone with h | h <;> simp only [RegRaceProof.good, h, ht, Bool.and_eq_true] at hg
  · simpa using hg.2.2
  · simpa using hg.2

/-- **Registration vs termination, for the code as it is** (`Gen.RegRace.recheckAliveAfterStore`, regenerated from
node.RegisterName): a name claimed for a process that terminates meanwhile is never left in the table. -/
theorem C06_register_vs_termination : C06_register_vs_termination_full ErgoVerif.Gen.RegRace.recheckAliveAfterStore := by
  have h : ErgoVerif.Gen.RegRace.recheckAliveAfterStore = true := by decide
  rw [h]
  exact C06_register_vs_termination_with_recheck

/-- non-vacuity: the registration completes first, the termination then releases the name; and the other way round
the registration is refused -/
example : RegRace.run true RegRace.init [.rStep, .rStep, .rStep, .rStep, .rStep, .tStep, .tStep, .tStep] =
    some ⟨false, true, false, true, true, .doneOk, .done⟩ := by decide
example : (RegRace.run true RegRace.init [.tStep, .rStep, .tStep, .tStep]).map (·.r) = some .doneErr := by decide

end RegRace

end ErgoVerif.Props.C06
