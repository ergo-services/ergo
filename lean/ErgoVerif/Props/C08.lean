import ErgoVerif.Generated.Unreg
import ErgoVerif.Generated.SupShell
import ErgoVerif.Lemmas.SupLoopSOFO
import ErgoVerif.Lemmas.SupTrackOFO2
import ErgoVerif.Lemmas.SupLoopARFO
/-!
# C08 — supervisor restart semantics by type and strategy

Models: `Model/SupOFO.lean`, `SupARFO.lean`, `SupSOFO.lean` (mirrors of act/supervisor_{ofo,arfo,sofo}.go at the
repaired code: D5, D14, D19, D27 fixed), `Model/SupLoop.lean` (handleAction + exit dispatch + environment).
Rules: `Spec/Sup.lean`.  Tie: harness/c08.go (K2 differential on every run).  T1–T10 are the theorem numbers of DESIGN.md §6 C08.

Contents
* T9/T10 `C08_*_decision` — for ALL states: the answer to the termination of a child of an enabled spec in
  normal operation is what the documented rule prescribes (Permanent/Transient/Temporary × reason ×
  significant × auto-shutdown × intensity verdict); `C08_rule_strategies`: the rule's strategy column.
* T2 `C08_ofo_isolation` — one-for-one touches only the terminated child's spec and never stops a sibling
  unless the supervisor itself is going down.
* T3/T5 `C08_stop_list`, `C08_rest_prefix_untouched`, `C08_keeporder_one_at_a_time` — all/rest-for-one stops
  exactly the running children of the enabled specs at positions ≥ the restart position, in reverse spec order;
  with KeepOrder one at a time; `C08_restart_position`.
* T4 `C08_start_order` — children are started in increasing spec order, skipping running and disabled specs.
* T6 `C08_disabled_stays_down_*`, `C08_disabled_not_started`; `C08_disable_not_running` (D19 repaired),
  `C08_ofo_refuses_while_shutting_down` (D27 repaired).
* simple-one-for-one, closed system, ALL histories: `C08_sofo_no_panic`, `C08_sofo_children_table`,
  `C08_sofo_all_stopped`, `C08_sofo_no_hang`.
* T7 `C08_every_exit_noticed_once_{ofo,arfo,sofo}` — the glue, all three types, ALL histories.
* one-for-one, closed system, ALL histories: `C08_ofo_no_panic` (no panic, handleAction terminates).
* one-for-one tracking of the children table: `C08_ofo_tracking_*_step` and the closure `C08_all_stopped_ofo_partial`
  (all histories outside the region D26).
* all/rest-for-one WITHOUT KeepOrder, closed system, ALL histories: `C08_no_panic_arfo_closed_partial`; step level,
  all states: `C08_no_panic_arfo_partial`.
* refuted full statements (listed findings) with proved counterexamples:
  `C08_no_panic_arfo_full` (D18), `C08_prescribed_set_full` (D25), `C08_all_stopped_ofo_full` (D26),
  and the partial results that do hold.
* code shape (regenerated): `C08_code_shape_name_release` (D28 repaired), `C08_code_shape_shell`.
-/
namespace ErgoVerif.Props.C08
open ErgoVerif ErgoVerif.Sup ErgoVerif.Spec.Sup

theorem C08_ofo_decision (s : OFO) (name pid : Nat) (r : Reason) (now : Int)
    (hsd : s.shutdown = false) (k : Nat) (c : ChildSpec)
    (hf : (scan name pid 0 s.spec).found = some (k, c)) (hen : c.disabled = false) :
    OFO.Meets (rule false s.restart.strategy r c.significant s.autoshutdown
                (scan name pid 0 s.spec).running.length
                (Window.check s.restarts now s.restart.periodMs s.restart.intensity).2)
      c (scan name pid 0 s.spec) (s.childTerminated name pid r now).1 (s.childTerminated name pid r now).2 :=
  OFO.decision s name pid r now hsd k c hf hen

theorem C08_arfo_decision (s : ARFO) (name pid : Nat) (r : Reason) (now : Int)
    (hm : s.mode = 0) (k : Nat) (c : ChildSpec)
    (hf : (scan name pid 0 s.spec).found = some (k, c)) (hen : c.disabled = false) :
    ARFO.Meets (rule false s.restart.strategy r c.significant s.autoshutdown
                (scan name pid 0 s.spec).running.length
                (Window.check s.restarts now s.restart.periodMs s.restart.intensity).2)
      k r (scan name pid 0 s.spec)
      { s with wait := sdel pid s.wait, spec := (scan name pid 0 s.spec).spec,
               restarts := (Window.check s.restarts now s.restart.periodMs s.restart.intensity).1 }
      (s.childTerminated name pid r now).1 (s.childTerminated name pid r now).2 :=
  ARFO.decision s name pid r now hm k c hf hen

theorem C08_sofo_decision (s : SOFO) (name pid : Nat) (r : Reason) (now : Int)
    (hsd : s.shutdown = false) (c : ChildSpec)
    (hf : findName name s.spec = some c) (hen : c.disabled = false) :
    SOFO.Meets (rule true s.restart.strategy r c.significant false 0
                (Window.check s.restarts now s.restart.periodMs s.restart.intensity).2)
      c { s with pids := s.pids.filter (·.1 ≠ pid), wait := sdel pid s.wait }
      (s.childTerminated name pid r now).1 (s.childTerminated name pid r now).2 :=
  SOFO.decision s name pid r now hsd c hf hen

/-- the rule itself says: Permanent restarts after any termination, Transient only after an abnormal one,
Temporary never (so that the three theorems above are about the right table) -/
theorem C08_rule_strategies (r : Reason) :
    needsRestart .permanent r = true ∧ needsRestart .temporary r = false ∧
    (needsRestart .transient r = true ↔ r ≠ .normal ∧ r ≠ .shutdown) := by
  cases r <;> simp [needsRestart, Reason.quiet]

/-- in normal operation one-for-one changes nothing but the pid of the spec(s) the exit belongs to, and the
answer is never a request to stop a sibling unless the supervisor is terminating
(the `terminateChildren` answer comes only together with `shutdown = true`) -/
theorem C08_ofo_isolation (s : OFO) (name pid : Nat) (r : Reason) (now : Int) (hsd : s.shutdown = false) :
    (s.childTerminated name pid r now).1.spec =
        s.spec.map (fun c => if hit name pid c then { c with pid := 0 } else c) ∧
    ∀ k c, (scan name pid 0 s.spec).found = some (k, c) → c.disabled = false →
      ∀ a, (s.childTerminated name pid r now).2 = .ok a → a.act = .terminateChildren →
        (s.childTerminated name pid r now).1.shutdown = true := by
  obtain ⟨_, _, hspec, a, ha, _, hstop⟩ := OFO.childTerminated_frame s name pid r now hsd
  exact ⟨by rw [hspec, scan_spec_eq], fun _ _ _ _ a' ha' hact => hstop (Res.ok.inj (ha.symm.trans ha') ▸ hact)⟩

/-- the stop list of all/rest-for-one: the running children of the enabled specs at positions ≥ restartI,
in reverse spec order; with KeepOrder only the last of them -/
theorem C08_stop_list (s : ARFO) :
    (ARFO.childrenForTermination s).2 =
      pick s.keeporder ((((s.spec.drop s.restartI).filter stoppable).map (·.pid)).reverse) := by
  unfold ARFO.childrenForTermination
  exact forTermination_eq s.restartI s.keeporder s.spec

/-- rest-for-one: the children before the restart position receive no exit -/
theorem C08_rest_prefix_untouched (s : ARFO) (p : Nat) (h : p ∈ (ARFO.childrenForTermination s).2) :
    ∃ c, c ∈ s.spec.drop s.restartI ∧ c.pid = p ∧ c.disabled = false ∧ p ≠ 0 := by
  rw [C08_stop_list] at h
  obtain ⟨c, hc, rfl⟩ := List.mem_map.mp (List.mem_reverse.mp ((pick_sublist ..).subset h))
  have ⟨hm, hs⟩ := List.mem_filter.mp hc
  exact ⟨c, hm, rfl, stoppable_iff.mp hs⟩

theorem C08_keeporder_one_at_a_time (s : ARFO) (h : s.keeporder = true) :
    (ARFO.childrenForTermination s).2.length ≤ 1 := by
  rw [C08_stop_list, h, pick, if_pos rfl, List.length_take]
  exact Nat.min_le_left ..

/-- and the restart position of rest-for-one is the position of the terminated child (all-for-one: unchanged, 0) -/
theorem C08_restart_position (s : ARFO) (k : Nat) (r : Reason) :
    (ARFO.restartStep s k r).1.restartI = if s.rest then k else s.restartI := by
  rw [ARFO.restartStep_eq]
  simp only
  generalize (if s.rest then k else s.restartI) = rI
  split
  · split <;> rfl
  · rfl

theorem C08_start_order (frm : Nat) (l : List ChildSpec) (j : Nat) (c : ChildSpec)
    (h : findStart frm 0 l = some (j, c)) :
    frm ≤ j ∧ l[j]? = some c ∧ c.pid = 0 ∧ c.disabled = false ∧
    ∀ i, i < j → frm ≤ i → ∃ d, l[i]? = some d ∧ (d.pid ≠ 0 ∨ d.disabled = true) := by
  have := findStart_spec frm l 0 j c h
  exact ⟨this.1, this.2.2.1, this.2.2.2.1, this.2.2.2.2.1, fun i hij hfi => this.2.2.2.2.2 i (Nat.zero_le _) hij hfi⟩

theorem C08_disabled_stays_down_sofo (s : SOFO) (name pid : Nat) (r : Reason) (now : Int)
    (hsd : s.shutdown = false) (c : ChildSpec) (hf : findName name s.spec = some c) (hdis : c.disabled = true) :
    (s.childTerminated name pid r now).2 = .ok {} := by
  rw [SOFO.childTerminated_found s name pid r now hsd hf]
  simp only [hdis, or_true, if_true]

theorem C08_disabled_stays_down_ofo (s : OFO) (name pid : Nat) (r : Reason) (now : Int)
    (hsd : s.shutdown = false) (k : Nat) (c : ChildSpec)
    (hf : (scan name pid 0 s.spec).found = some (k, c)) (hdis : c.disabled = true) :
    (s.childTerminated name pid r now).2 = .ok {} ∨
    (s.childTerminated name pid r now).2 = .ok { act := .terminate, reason := some r } := by
  rw [OFO.childTerminated_found s name pid r now hsd hf]
  simp only [hdis, if_true, OFO.autoShutdown]
  split
  · exact Or.inr rfl
  · exact Or.inl rfl

theorem C08_disabled_stays_down_arfo (s : ARFO) (name pid : Nat) (r : Reason) (now : Int)
    (hm : s.mode = 0) (k : Nat) (c : ChildSpec)
    (hf : (scan name pid 0 s.spec).found = some (k, c)) (hdis : c.disabled = true) :
    (s.childTerminated name pid r now).2 = .ok {} ∨
    (s.childTerminated name pid r now).2 = .ok { act := .terminate, reason := some r } := by
  rw [ARFO.childTerminated_found s name pid r now hm hf]
  simp only [hdis, if_true, ARFO.autoShutdown]
  split
  · exact Or.inr rfl
  · exact Or.inl rfl

/-- StartChild on a disabled spec is refused and the restart scan never picks a disabled spec -/
theorem C08_disabled_not_started (s : OFO) (name : Nat) (c : ChildSpec)
    (hf : findName name s.spec = some c) (hdis : c.disabled = true) (hm : s.mode = 0) :
    (s.childSpec name).2 = .err .disabled ∨ (s.childSpec name).2 = .err .strategyActive := by
  cases hs : s.shutdown <;> simp [OFO.childSpec, hm, hf, hdis, hs]

/-- D27 repaired: while a one-for-one supervisor is stopping its children (significant child gone, restart intensity
exceeded, foreign exit) StartChild / AddChild / EnableChild are refused and change nothing -/
theorem C08_ofo_refuses_while_shutting_down (s : OFO) (name : Nat) (sig : Bool) (h : s.shutdown = true) :
    s.childSpec name = (s, .err .strategyActive) ∧ s.childAddSpec name sig = (s, .err .strategyActive) ∧
    s.childEnable name = (s, .err .strategyActive) :=
  ⟨OFO.childSpec_shut s name h, OFO.childAddSpec_shut s name sig h, OFO.childEnable_shut s name h⟩

/-- D19 repaired: DisableChild on a spec whose child is not running disables the spec -/
theorem C08_disable_not_running (s : OFO) (name : Nat) (c : ChildSpec)
    (hf : findName name s.spec = some c) (hen : c.disabled = false) (hp : c.pid = 0) :
    (findName name (s.childDisable name).1.spec).map (·.disabled) = some true := by
  simp only [OFO.childDisable, hf, hen, hp]
  simp only [Bool.false_eq_true, if_false, if_true]
  rw [findName_updName_self _ rfl hf]; rfl

def SofoReach (sp : SupSpec) (c : Loop SOFO) : Prop := ∃ ls, run sofoStep (sofoBoot sp) ls = some c

/-- T8 for simple-one-for-one: no reachable panic, and handleAction always finishes -/
theorem C08_sofo_no_panic (sp : SupSpec) (c : Loop SOFO) (h : SofoReach sp c) :
    c.status ≠ .panicked ∧ c.status ≠ .stuck := (SOFO.reach_inv h).sane

/-- T7 (the glue): `Supervisor.children` holds exactly the spawned children whose exit has not been handled,
so every exit is handed to the state machine with the right spec name, once -/
theorem C08_sofo_children_table (sp : SupSpec) (c : Loop SOFO) (h : SofoReach sp c) (p : Nat) :
    p ∈ keys c.kids ↔ (p ∈ keys c.alive ∨ p ∈ keys c.inflight) := (SOFO.reach_inv h).glue.kids_iff p

/-- no child is forgotten: while not shutting down the machine's table is the children table; a supervisor
that has terminated has no child left, running or unnoticed -/
theorem C08_sofo_all_stopped (sp : SupSpec) (c : Loop SOFO) (h : SofoReach sp c) :
    (c.m.shutdown = false → ∀ p, p ∈ keys c.m.pids ↔ p ∈ keys c.kids) ∧
    (∀ r, c.status = .terminated r → ∀ p, p ∉ keys c.alive ∧ p ∉ keys c.inflight) := by
  have hi := SOFO.reach_inv h
  refine ⟨fun hsd => (hi.minv.normal hsd).1, ?_⟩
  intro r hr p
  have ⟨ha, hf⟩ := hi.glue.none_left (hi.term r hr).2.2
  rw [ha, hf]
  exact ⟨List.not_mem_nil, List.not_mem_nil⟩

/-- a shutting-down supervisor that is still alive is waiting for an existing child (D14 repaired: no hang) -/
theorem C08_sofo_no_hang (sp : SupSpec) (c : Loop SOFO) (h : SofoReach sp c)
    (hrun : c.status = .running) (hsd : c.m.shutdown = true) :
    ∃ p, p ∈ c.m.wait ∧ (p ∈ keys c.alive ∨ p ∈ keys c.inflight) := by
  have hi := SOFO.reach_inv h
  exact hi.glue.waits_for_child (hi.minv.shut hsd).1 (hi.live hrun hsd)

/-- T7 for all three supervisor types, all histories: `Supervisor.children` is exactly the set of spawned children
that are running or whose exit is still unhandled (so every exit is attributed to the right spec), a child's
termination is handed to the state machine at most once, a noticed child is gone for good, pids are not reused -/
theorem C08_every_exit_noticed_once_arfo (sp : SupSpec) (c : Loop ARFO) (h : ∃ ls, run arfoStep (arfoBoot sp) ls = some c) :
    (∀ p, p ∈ keys c.kids ↔ (p ∈ keys c.alive ∨ p ∈ keys c.inflight)) ∧ c.noticed.Nodup ∧
    (∀ p, p ∈ c.noticed → p ∉ keys c.alive ∧ p ∉ keys c.inflight) :=
  reach_exits_noticed arfoMachine arfoStep (fun _ _ => ⟨_, rfl⟩) _ _ c h

theorem C08_every_exit_noticed_once_ofo (sp : SupSpec) (c : Loop OFO) (h : ∃ ls, run ofoStep (ofoBoot sp) ls = some c) :
    (∀ p, p ∈ keys c.kids ↔ (p ∈ keys c.alive ∨ p ∈ keys c.inflight)) ∧ c.noticed.Nodup ∧
    (∀ p, p ∈ c.noticed → p ∉ keys c.alive ∧ p ∉ keys c.inflight) :=
  reach_exits_noticed ofoMachine ofoStep (fun _ _ => ⟨_, rfl⟩) _ _ c h

theorem C08_every_exit_noticed_once_sofo (sp : SupSpec) (c : Loop SOFO) (h : SofoReach sp c) :
    (∀ p, p ∈ keys c.kids ↔ (p ∈ keys c.alive ∨ p ∈ keys c.inflight)) ∧ c.noticed.Nodup ∧
    (∀ p, p ∈ c.noticed → p ∉ keys c.alive ∧ p ∉ keys c.inflight) :=
  reach_exits_noticed sofoMachine sofoStep (fun _ _ => ⟨_, rfl⟩) _ _ c h

def ArfoReach (sp : SupSpec) (c : Loop ARFO) : Prop := ∃ ls, run arfoStep (arfoBoot sp) ls = some c
def OfoReach (sp : SupSpec) (c : Loop OFO) : Prop := ∃ ls, run ofoStep (ofoBoot sp) ls = some c

/-- T8 for one-for-one, unconditionally: from ProcessInit of any valid spec, in EVERY history (children dying at
any moment, spawn failures, management calls in any state) the state machine never panics (`childStarted` is only
ever handed a spec it knows, at the right index) and the `for` loop of `handleAction` always finishes -/
theorem C08_ofo_no_panic (sp : SupSpec) (hv : ValidSpec sp) (c : Loop OFO) (h : OfoReach sp c) :
    c.status ≠ .panicked ∧ c.status ≠ .stuck := by
  obtain ⟨ls, hr⟩ := h
  exact (run_inv (Inv := OFO.Inv) (fun s a s' hi hs => OFO.step_inv s s' a hi hs) (OFO.boot_inv sp hv.1) hr).sane

/-! `OFO.TInv m kids`: spec names are distinct and non-empty; in normal operation the non-zero pids stored in the specs
are exactly the pids of `Supervisor.children` (with the right spec name); while shutting down the wait set is exactly
that set and a final reason is recorded. -/

/-- exit of a known child in normal operation: the invariant is re-established for the table without that child, and
the answer is good: a `start` is for a spec without a child; `terminateChildren` on entering shutdown makes the
machine wait for exactly the remaining children; `terminate` only when no child is left -/
theorem C08_ofo_tracking_exit_step (m : OFO) (kids : List (Nat × Nat)) (h : OFO.TInv m kids) (hwf : OFO.WF m)
    (hsd : m.shutdown = false) (pid n : Nat) (hk : (pid, n) ∈ kids) (r : Reason) (now : Int) :
    OFO.TInv (m.childTerminated n pid r now).1 (kids.filter (fun x => x.1 ≠ pid)) ∧
    ∃ a, (m.childTerminated n pid r now).2 = .ok a ∧
      OFO.TGood (m.childTerminated n pid r now).1 (kids.filter (fun x => x.1 ≠ pid)) a :=
  OFO.ct_track m kids h hsd n pid (OFO.hit_known m kids h hsd n pid hk) (hwf.found_idx n pid) r now

/-- any exit while shutting down: the wait set shrinks with the table; the supervisor terminates exactly when the
table is empty, with the recorded reason -/
theorem C08_ofo_tracking_shutdown_step (m : OFO) (kids : List (Nat × Nat)) (h : OFO.TInv m kids)
    (hsd : m.shutdown = true) (pid n : Nat) (r : Reason) (now : Int) :
    OFO.TInv (m.childTerminated n pid r now).1 (kids.filter (fun x => x.1 ≠ pid)) ∧
    ∃ a, (m.childTerminated n pid r now).2 = .ok a ∧
      OFO.TGood (m.childTerminated n pid r now).1 (kids.filter (fun x => x.1 ≠ pid)) a :=
  OFO.ct_track_shut m kids h hsd n pid r now

/-- an exit that belongs to no child: every child in the table is told to stop and waited for -/
theorem C08_ofo_tracking_foreign_step (m : OFO) (kids : List (Nat × Nat)) (h : OFO.TInv m kids) (hsd : m.shutdown = false)
    (np : Nat) (hnp0 : np ≠ 0) (hfresh : ∀ p, p ∈ keys kids → p < np) (r : Reason) (now : Int) :
    OFO.TInv (m.childTerminated 0 np r now).1 kids ∧
    ∃ a, (m.childTerminated 0 np r now).2 = .ok a ∧ OFO.TGood (m.childTerminated 0 np r now).1 kids a :=
  OFO.ct_track_foreign m kids h hsd np hnp0 hfresh r now

/-- a spawn for a good `start` action: the new (fresh) pid is recorded for the right spec, and what `childStarted`
asks next is again a good action -/
theorem C08_ofo_tracking_start_step (m : OFO) (kids : List (Nat × Nat)) (h : OFO.TInv m kids) (a : Action)
    (hg : m.shutdown = false ∧ OFO.ValidStart m a ∧ ∃ c : ChildSpec, m.spec[a.spec.i]? = some c ∧ c.pid = 0)
    (np : Nat) (hnp0 : np ≠ 0) (hfresh : ∀ p, p ∈ keys kids → p < np) :
    OFO.TInv (m.childStarted a.spec np).1 ((np, a.spec.name) :: kids) ∧
    ∃ a', (m.childStarted a.spec np).2 = .ok a' ∧ OFO.TGood (m.childStarted a.spec np).1 ((np, a.spec.name) :: kids) a' ∧
      (a'.act = .nothing ∨ a'.act = .start) :=
  OFO.childStarted_track m kids h a hg np hnp0 hfresh

/-- non-vacuity of `OFO.TInv`: c1 running as pid 5, c2 without a child -/
example : OFO.TInv { spec := [{ name := 1, pid := 5, i := 0 }, { name := 2, pid := 0, i := 1 }] } [(5, 1)] := by
  -- names distinct and non-empty; a pid runs under one name; the table is the relation "spec `n` has child `p`"
  refine OFO.tinv_of_runs (by decide) (by decide) ?_ ?_ (fun hx => nomatch hx)
  · simp [runs_iff]; omega
  · simp [runs_iff]; omega

def sp3 (rest ko : Bool) (st : Strategy) (sig3 das : Bool) : SupSpec :=
  { children := [(1, false), (2, false), (3, sig3)], rest := rest, restart := { strategy := st, keepOrder := ko },
    disableAutoShutdown := das }

theorem sp3_valid (rest ko : Bool) (st : Strategy) (sig3 das : Bool) : ValidSpec (sp3 rest ko st sig3 das) := by
  simp [ValidSpec, sp3]

/-- T8, full: no reachable panic in all/rest-for-one -/
def C08_no_panic_arfo_full : Prop :=
  ∀ sp, ValidSpec sp → ∀ c, ArfoReach sp c → c.status ≠ .panicked

/-- D18: all-for-one with KeepOrder; c1 fails, the supervisor stops c3 and waits; c2 dies meanwhile -/
theorem C08_no_panic_arfo_counterexample : ¬ C08_no_panic_arfo_full := by
  intro h
  have := h (sp3 false true .permanent false false) (sp3_valid _ _ _ _ _)
    _ ⟨[.die 1 (.other 1), .deliver 1 1000 [], .die 2 (.other 2), .deliver 2 1001 []], rfl⟩
  revert this
  decide

/-- the strongest step-level statement that holds: `childTerminated` of all/rest-for-one can panic only
(a) in the KeepOrder "must be 0" test of the stopping mode, or (b) inside `childForStart` -/
theorem C08_no_panic_arfo_partial (s : ARFO) (name pid : Nat) (r : Reason) (now : Int)
    (h : (s.childTerminated name pid r now).2 = .panic) :
    (s.mode = 2 ∧ s.keeporder = true ∧ sdel pid s.wait ≠ []) ∨ (∃ s', ARFO.childForStart s' = none) := by
  rcases ARFO.panic_cases s name pid r now h with h1 | h1 | ⟨_, _, _, h1⟩
  · exact Or.inl h1
  · exact Or.inr ⟨_, h1⟩
  · exact Or.inr ⟨_, h1⟩

/-- the closed-system partial result for D18: an all-for-one / rest-for-one supervisor whose spec does NOT ask for
KeepOrder never panics and its handleAction always finishes — for every valid spec and EVERY history (children dying
at any moment, also while others are being stopped; exits handled in any order; spawn failures; foreign exits;
management calls).  Invariant: in the stopping mode every running child of the restart group is in the wait set and
the group contains an enabled spec, so `childForStart` always finds a spec without a child. -/
theorem C08_no_panic_arfo_closed_partial (sp : SupSpec) (hv : ValidSpec sp) (hko : sp.restart.keepOrder = false)
    (c : Loop ARFO) (h : ArfoReach sp c) : c.status ≠ .panicked ∧ c.status ≠ .stuck := by
  obtain ⟨ls, hr⟩ := h
  exact (run_inv (Inv := ARFO.Inv) (fun s a s' hi hs => ARFO.step_inv s s' a hi hs) (ARFO.boot_inv sp hv.1 hko) hr).sane

/-- non-vacuity: a valid rest-for-one spec without KeepOrder, and a history in which a child before the restart range
dies while a later one is being stopped (the D25 history): no panic there -/
example : ValidSpec (sp3 true false .permanent false false) ∧ (sp3 true false .permanent false false).restart.keepOrder = false ∧
    ∃ c, ArfoReach (sp3 true false .permanent false false) c ∧ c.status = .running ∧ c.m.mode = 0 :=
  ⟨sp3_valid _ _ _ _ _, rfl, _,
   ⟨[.die 2 (.other 1), .deliver 2 1000 [], .die 1 (.other 2), .deliver 1 1001 [], .die 3 (.other 1), .deliver 3 1002 []], rfl⟩,
   by decide⟩

/-- T1, full (Permanent): at quiescence every enabled spec has a running child, in every history without
spawn failures -/
def C08_prescribed_set_full : Prop :=
  ∀ sp, ValidSpec sp → sp.restart.strategy = .permanent →
    ∀ ls c, ls.all noSpawnFailure = true → run arfoStep (arfoBoot sp) ls = some c → quiescent c = true →
      ∀ s ∈ c.m.spec, s.disabled = false → c.alive.any (fun a => a.2 == s.name) = true

/-- D25: rest-for-one without KeepOrder; c2 fails (c3 is told to stop), c1 fails before c3 has terminated;
c2 and c3 are restarted, c1 never -/
theorem C08_prescribed_set_counterexample : ¬ C08_prescribed_set_full := by
  intro h
  have := h (sp3 true false .permanent false false) (sp3_valid _ _ _ _ _) rfl
    [.die 2 (.other 1), .deliver 2 1000 [], .die 1 (.other 2), .deliver 1 1001 [], .die 3 (.other 1), .deliver 3 1002 []]
    _ (by decide) rfl (by decide) { name := 1, register := true, i := 0 } (by decide) rfl
  revert this
  decide

/-- "stops all its children": a supervisor that has terminated by its own decision has no running child -/
def C08_all_stopped_ofo_full : Prop :=
  ∀ sp, ValidSpec sp → ∀ c, OfoReach sp c → ∀ r, c.status = .terminated r → c.alive = []

/-- histories of the closed one-for-one system that stay out of the listed region D26: no EnableChild (outside a
shutdown, where it is refused anyway) for a spec that still has an entry in the children table -/
def OfoSafeReach (sp : SupSpec) (c : Loop OFO) : Prop := ∃ ls, run ofoStepSafe (ofoBoot sp) ls = some c

/-- the strongest statement that holds for one-for-one: outside D26, for every valid spec and EVERY history
(children dying at any moment, exits handled in any order, spawn failures, foreign exits, management calls):
the machine's pids are exactly the children table; a terminated supervisor has no child left, running or unnoticed;
a supervisor that is shutting down and still alive is waiting for an existing child (it cannot hang); no panic -/
theorem C08_all_stopped_ofo_partial (sp : SupSpec) (hv : ValidSpec sp) (c : Loop OFO) (h : OfoSafeReach sp c) :
    (∀ r, c.status = .terminated r → c.alive = [] ∧ c.inflight = []) ∧
    (c.m.shutdown = false → ∀ p, p ∈ keys c.kids ↔ (p ≠ 0 ∧ ∃ s, s ∈ c.m.spec ∧ s.pid = p)) ∧
    (c.status = .running → c.m.shutdown = true → ∃ p, p ∈ c.m.wait ∧ (p ∈ keys c.alive ∨ p ∈ keys c.inflight)) ∧
    c.status ≠ .panicked ∧ c.status ≠ .stuck := by
  have ht := OFO.reach_track hv h
  exact ⟨fun r hr => ht.glue.none_left (ht.term r hr).2, fun hsd => (ht.tinv.normal hsd).1,
    fun hrun hsd => ht.glue.waits_for_child (ht.tinv.shut hsd).1 (ht.live hrun hsd), ht.sane⟩

/-- D26: DisableChild c2, c2 dies, EnableChild c2 before the exit is handled (new child, pid 4); the stale exit
clears the new pid; the significant c3 dies: only c1 is stopped; the supervisor terminates with pid 4 running -/
theorem C08_all_stopped_ofo_counterexample : ¬ C08_all_stopped_ofo_full := by
  intro h
  have := h (sp3 false false .temporary true true) (sp3_valid _ _ _ _ _)
    _ ⟨[.disable 2, .die 2 .shutdown, .enable 2 [], .deliver 2 1000 [], .die 3 (.other 1), .deliver 3 1001 [],
        .die 1 (.other 1), .deliver 1 1002 []], rfl⟩ (.other 1) (by decide)
  revert this
  decide

/-- the history that broke it before D27 was repaired (StartChild c2 accepted while c1 was being stopped: the supervisor
terminated with the new c2 running) now ends with nothing left: the call is refused -/
example : ∃ c, run ofoStepSafe (ofoBoot (sp3 false false .temporary true true))
      [.die 2 .normal, .deliver 2 1000 [], .die 3 (.other 1), .deliver 3 1001 [], .startChild 2 0 [],
       .die 1 (.other 1), .deliver 1 1002 []] = some c ∧ c.status = .terminated (.other 1) ∧ c.alive = [] :=
  ⟨_, rfl, by decide⟩

/-- the restart of a registered child presupposes that its name is free when the supervisor handles the exit signal:
the node releases the name before it sends the exit signals (regenerated from node.unregisterProcess; the repaired D28 —
the restart is exercised on a real node by the K4 part of the harness) -/
theorem C08_code_shape_name_release : ErgoVerif.Gen.Unreg.nameReleasedBeforeExitSignals = true := by decide

/-- the shell that executes the machines' actions (`Supervisor.handleAction`), as the closed-system model and the
simulation assume it: a start links the child both ways, hands a spawn error back (the supervisor terminates with it),
records the pid and asks the machine for the next action; stopping children sends every exit signal and IGNORES a
refusal (a child that is already gone has its exit on the way), never returning from inside the loop; an empty stop
list and `terminate` end the supervisor with the action's reason (regenerated statement skeletons) -/
def expectedShell : List String := [
  "supActionDoNothing: s.state=supStateNormal; break",
  "supActionStartChild: s.state=supStateStrategy; action.spec.Options.LinkChild=true; action.spec.Options.LinkParent=true; if action.spec.register {pid,err=s.SpawnRegister()} else {pid,err=s.Spawn()}; if err != nil {s.state=supStateNormal; return}; if s.handleChild {s.Send()}; s.children[pid]=action.spec.Name; action=s.sup.childStarted(); continue",
  "supActionTerminateChildren: if len(action.terminate) == 0 {return}; s.state=supStateStrategy; range action.terminate {if err:=s.SendExit(); err == nil {s.Log().Info()}}; s.state=supStateNormal; return",
  "supActionTerminate: return",
  "default: panic()"]

theorem C08_code_shape_shell : ErgoVerif.Gen.SupShell.caseShapes = expectedShell := rfl

/-- a Permanent one-for-one supervisor with c2 running restarts it after `kill` -/
example :
    let s : OFO := { spec := mkSpecs true 0 [(1, false), (2, false)], restart := { strategy := .permanent } }
    let s := { s with spec := s.spec.map fun (c : ChildSpec) => { c with pid := 100 + c.i } }
    (s.childTerminated 2 101 .kill 1000).2 = .ok { act := .start, spec := { name := 2, register := true, i := 1 } } := by
  decide

/-- the hypotheses of the decision theorems are satisfiable (a found, enabled spec in normal mode) -/
example : ∃ (s : ARFO) (k : Nat) (c : ChildSpec),
    s.mode = 0 ∧ (scan 2 101 0 s.spec).found = some (k, c) ∧ c.disabled = false :=
  ⟨{ spec := (mkSpecs true 0 [(1, false), (2, false)]).map fun (c : ChildSpec) => { c with pid := 100 + c.i } }, 1,
   { name := 2, register := true, i := 1 }, rfl, by decide, rfl⟩

/-- the closed simple-one-for-one system does reach shutting-down configurations that are still running -/
example : ∃ c, SofoReach { children := [(1, false)], restart := { strategy := .permanent, intensity := 1 } } c ∧
    c.status = .running ∧ c.m.shutdown = true :=
  ⟨_, ⟨[.startChild 1 0 [], .startChild 1 0 [], .die 1 .kill, .deliver 1 1000 [], .die 3 .kill, .deliver 3 1100 []], rfl⟩,
   by decide⟩

/-- a well-behaved all-for-one history: c2 fails, c3 and c1 are stopped in reverse order, all three are started in
spec order -/
example : ∃ c, run arfoStep (arfoBoot (sp3 false false .permanent false false))
      [.die 2 (.other 1), .deliver 2 1000 [], .die 3 (.other 1), .die 1 (.other 1), .deliver 3 1001 [], .deliver 1 1002 []] = some c ∧
    c.exitsSent.map (·.1) = [3, 1] ∧ c.alive.map (·.2) = [3, 2, 1] ∧ c.m.mode = 0 ∧ c.status = .running :=
  ⟨_, rfl, by decide⟩

end ErgoVerif.Props.C08
