import ErgoVerif.Lemmas.EdfTop
import ErgoVerif.Lemmas.HsCache
import ErgoVerif.Lemmas.EdfRep
import ErgoVerif.Lemmas.EdfExcl
/-!
# C11 — EDF round trip

`Model/Edf.lean` mirrors net/edf (encode.go, decode.go, register.go, init.go) after the `fix:` commits for
D3 (`%` in error texts), D4 (uint16 wrap for strings of 65534/65535 bytes), D4b (uint32 wrap in
decodeBinary / Marshaler decoders), D26 (Marshaler length written into a stale buffer), D27 (map keyed by an
array type could not be decoded) and D31 (registered map: count checked after MakeMapWithSize).

* `C11_roundtrip` / `C11_top`: for every type, every value the encoder accepts, every trailing byte string
  and every consistent cache configuration the decoder returns the value and exactly the trailing bytes.
* The hypothesis `Good o t v` collects (a) what every Go value satisfies (`WF`: dynamic types are registered,
  map keys distinct, lengths < 2^32) and is in canonical form (quiet float32 NaN, atoms fixed by the
  mappings, sentinels in the error cache — see `C11_float32`, `C11_atom`, `C11_sentinel_uncached` for
  what happens otherwise) and (b) one region where the CURRENT code does not round-trip: non-empty collections of
  zero-width elements.  For (b) the full statement `C11_full` is refuted by `C11_counterexample` (listed finding
  C11/zero-width-elements); `C11_partial` is the theorem with (b) excluded.  (The second region found by this
  check, maps keyed by an array type, was repaired: `C11_map_array_key_fixed`.)
* `C11_reject_*`: the encoder rejects exactly the listed over-long cases.
-/
namespace ErgoVerif.Props.C11
open ErgoVerif.Edf ErgoVerif.Generated.Edt

/-- body level: `decoder.Decode (encoder.Encode v ++ rest) = (v, rest)` for every type, value, fuel ≥ depth -/
theorem C11_roundtrip (o : Opts) (hc : CachesConsistent o) (t : Ty) (v : Val) (bs rest : Bytes) (fuel : Nat)
    (he : encB o t v = some bs) (hg : Good o t v) (hf : v.depth ≤ fuel) :
    dec o fuel false t (bs ++ rest) = .ok (v, rest) :=
  dec_encB o hc fuel v t bs rest he hg hf

/-- public API: `edf.Decode (edf.Encode v ++ rest) = (v, rest)`: same value, same dynamic type, exact consumption -/
theorem C11_top (o : Opts) (hc : CachesConsistent o) (t : Ty) (v : Val) (bs rest : Bytes) (fuel : Nat)
    (he : encode o t v = some bs) (hd : DescOK o t) (hl : (encTy o t).length < 65536) (hg : Good o t v)
    (hf : v.depth ≤ fuel) : decode o fuel (bs ++ rest) = .ok (some (t, v), rest) := by
  unfold decode; rw [decodeRaw_encode o hc t v bs rest fuel he hd hl hg hf]; rfl

/-- the full statement: every well-formed canonical value the encoder accepts comes back -/
def C11_full : Prop :=
  ∀ (o : Opts) (t : Ty) (v : Val) (bs rest : Bytes) (fuel : Nat), CachesConsistent o → DescWF o t →
    (encTy o t).length < 65536 → WF o t v → encode o t v = some bs → v.depth ≤ fuel →
    decode o fuel (bs ++ rest) = .ok (some (t, v), rest)

/-- strongest statement that holds for the current code: `Good` = `WF` minus zero-width elements in non-empty
    slices/maps/arrays (`DescOK` = `DescWF` since the D27 fix) -/
theorem C11_partial (o : Opts) (t : Ty) (v : Val) (bs rest : Bytes) (fuel : Nat) (hc : CachesConsistent o)
    (hd : DescOK o t) (hl : (encTy o t).length < 65536) (hg : Good o t v) (he : encode o t v = some bs)
    (hf : v.depth ≤ fuel) : decode o fuel (bs ++ rest) = .ok (some (t, v), rest) :=
  C11_top o hc t v bs rest fuel he hd hl hg hf

/-- the same with the exclusion spelled out: the hypotheses of `C11_full` plus `Excl` (no non-empty collection of
    zero-width elements) — `Good` is exactly `WF ∧ Excl` -/
theorem C11_partial_explicit (o : Opts) (t : Ty) (v : Val) (bs rest : Bytes) (fuel : Nat) (hc : CachesConsistent o)
    (hd : DescWF o t) (hl : (encTy o t).length < 65536) (hw : WF o t v) (hx : Excl t v)
    (he : encode o t v = some bs) (hf : v.depth ≤ fuel) : decode o fuel (bs ++ rest) = .ok (some (t, v), rest) :=
  C11_partial o t v bs rest fuel hc (DescWF_eq o t ▸ hd) hl (Good_of_WF o v t hw hx) he hf

/-- "#main/ZS" : `type ZS struct{}` -/
def zsName : Bytes := [0x23, 0x6d, 0x61, 0x69, 0x6e, 0x2f, 0x5a, 0x53]
def zsTy : Ty := .struct zsName .nil
/-- "#m/P" : `type P struct { A string; B []int16; C any }` -/
def pName : Bytes := [0x23, 0x6d, 0x2f, 0x50]
def pTy : Ty := .struct pName (.cons .str (.cons (.slice (.num .i16)) (.cons .any .nil)))

def o0 : Opts where
  atomId := fun _ => none
  atomOf := fun _ => none
  emap := id
  dmap := id
  regId := fun _ => none
  regOf := fun _ => none
  reg := fun nm => if nm = zsName then some zsTy else if nm = pName then some pTy else none
  errId := fun _ => none
  errOf := fun _ => none
  errText := fun _ => []

theorem o0_reg_cases {nm : Bytes} {t : Ty} (h : o0.reg nm = some t) : t = zsTy ∨ t = pTy := by
  simp only [o0] at h
  split at h
  · exact .inl (Option.some.inj h).symm
  · split at h
    · exact .inr (Option.some.inj h).symm
    · cases h

theorem o0_consistent : CachesConsistent o0 := ⟨by simp [o0], by simp [o0], by simp [o0]⟩

/-- with atom, type and error caches: atom "ab" ↔ 300, type P ↔ 5000, sentinel 0 ↔ 40000 -/
def o1 : Opts where
  atomId := fun a => if a = [0x61, 0x62] then some 300 else none
  atomOf := fun i => if i = 300 then some [0x61, 0x62] else none
  emap := id
  dmap := id
  regId := fun nm => if nm = pName then some 5000 else none
  regOf := fun i => if i = 5000 then some pName else none
  reg := fun nm => if nm = zsName then some zsTy else if nm = pName then some pTy else none
  errId := fun k => if k = 0 then some 40000 else none
  errOf := fun i => if i = 40000 then some (.errSent 0) else none
  errText := fun _ => [0x65]

theorem o1_consistent : CachesConsistent o1 := by
  refine ⟨?_, ?_, ?_⟩
  · intro a id h _; simp only [o1] at h ⊢; split at h <;> simp at h; subst h; simp_all
  · intro nm id h; simp only [o1] at h ⊢; split at h <;> simp at h; subst h; simp_all [limRegIdDec]
  · intro k id h _; simp only [o1] at h ⊢; split at h <;> simp at h; subst h; simp_all


/-- `[]ZS{{}}`: one element of zero wire width; the decoder's `n > len(packet)` guard rejects it -/
def zwVal : Val := .list (.cons (.list .nil) .nil)

theorem zw_encodes : encode o0 (.slice zsTy) zwVal = some [130, 0, 12, 157, 131, 0, 8, 0x23, 0x6d, 0x61, 0x69, 0x6e, 0x2f, 0x5a, 0x53, 157, 0, 0, 0, 1] := by
  decide
theorem zw_fails : decode o0 4 ([130, 0, 12, 157, 131, 0, 8, 0x23, 0x6d, 0x61, 0x69, 0x6e, 0x2f, 0x5a, 0x53, 157, 0, 0, 0, 1] ++ []) = .err := by
  decide

theorem C11_counterexample : ¬ C11_full := by
  intro h
  have := h o0 (.slice zsTy) zwVal _ [] 4 o0_consistent
    (by simp [DescWF, zsTy, RegOK, o0, zsName]) (by decide)
    (by simp [zwVal, WF, WFs, WFf, zsTy, lim32, Vals.length]) zw_encodes (by decide)
  rw [zw_fails] at this
  exact absurd this (by decide)

def makTy : Ty := .map (.array 1 (.num .u8)) .bool

/-- `any(map[[1]uint8]bool{})`: refused before the fix 07a18f8 (D27: the array case of decodeType insisted on ending
    the fold); now the descriptor 9f 9e 00000001 97 91 unfolds and the value comes back — covered by `C11_top` like
    every other type (`DescOK` no longer excludes anything a Go map key type can be) -/
theorem C11_map_array_key_fixed :
    encode o0 makTy (.map .nil) = some [130, 0, 8, 159, 158, 0, 0, 0, 1, 151, 145, 159, 0, 0, 0, 0] ∧
    decode o0 4 ([130, 0, 8, 159, 158, 0, 0, 0, 1, 151, 145, 159, 0, 0, 0, 0] ++ [7]) = .ok (some (makTy, .map .nil), [7]) := by
  constructor <;> decide


/-- The encoder returns an error exactly on the unrepresentable values: `Rep` (Lemmas/EdfRep.lean) says the value
    has the shape of its type — recursively through slices, arrays (length = the type's length), maps, struct
    fields, interface values (dynamic type encodable, i.e. no array type longer than 2^32-1) — and every leaf is
    within its wire limit: string ≤ 65535, binary ≤ 2^32-1, atom and node/name atoms of identifiers ≤ 255,
    error text ≤ 32767 (a sentinel: in the error cache or text ≤ 32767), time = a valid MarshalBinary image,
    marshaler payload ≤ 2^32-2.  Nothing else is rejected, and nothing unrepresentable is accepted. -/
theorem C11_reject (o : Opts) (t : Ty) (v : Val) : encB o t v = none ↔ ¬ Rep o t v := by
  rw [← encB_rep o v t]
  cases encB o t v <;> simp

theorem C11_reject_top (o : Opts) (t : Ty) (v : Val) :
    encode o t v = none ↔ ¬ (t.encodable = true ∧ t ≠ .any ∧ ¬ (t = .error ∧ v = .nil) ∧ Rep o t v) := by
  rw [← encB_any]
  exact C11_reject o .any (.any t v)

theorem C11_reject_string (o : Opts) (s : Bytes) : encB o .str (.str s) = none ↔ s.length > 65535 := by
  rw [C11_reject]; simp only [Rep, LeafRep, Nat.not_le]
theorem C11_reject_binary (o : Opts) (s : Bytes) : encB o .bin (.bin s) = none ↔ s.length > 4294967295 := by
  rw [C11_reject]; simp only [Rep, LeafRep, Nat.not_le]
theorem C11_reject_atom (o : Opts) (a : Bytes) : encB o .atom (.atom a) = none ↔ a.length > 255 := by
  rw [C11_reject]; simp only [Rep, LeafRep, Nat.not_le]
theorem C11_reject_error (o : Opts) (s : Bytes) : encB o .error (.errText s) = none ↔ s.length > 32767 := by
  rw [C11_reject]; simp only [Rep, LeafRep, Nat.not_le]
theorem C11_reject_idr (o : Opts) (k : IdR) (node raw : Bytes) (hr : raw.length = k.rawLen) :
    encB o (.idr k) (.idr node raw) = none ↔ node.length > 255 := by
  rw [C11_reject]; simp only [Rep, LeafRep, hr, and_true, Nat.not_le]
theorem C11_reject_idn (o : Opts) (k : IdN) (node name : Bytes) :
    encB o (.idn k) (.idn node name) = none ↔ node.length > 255 ∨ name.length > 255 := by
  rw [C11_reject]; simp only [Rep, LeafRep]; omega
theorem C11_reject_marshaler (o : Opts) (nm : Bytes) (sz : Nat) (p : Bytes) :
    encB o (.marsh nm sz) (.opaque p) = none ↔ p.length > 4294967294 := by
  rw [C11_reject]; simp only [Rep, Nat.not_le]
/-- getEncoder refuses array types longer than MaxUint32 -/
theorem C11_reject_array (o : Opts) (n : Nat) (t : Ty) (v : Val) (h : n > 4294967295) : encode o (.array n t) v = none := by
  have : ¬ n ≤ limBinaryEnc := by simp [limBinaryEnc]; omega
  simp [encode, Ty.encodable, this]
/-- a rejected element rejects the whole slice / interface value (no partial bytes are accepted) -/
theorem C11_reject_propagates_slice (o : Opts) (t : Ty) (v : Val) (vs : Vals) (h : encB o t v = none) :
    encB o (.slice t) (.list (.cons v vs)) = none := by
  rw [C11_reject] at h ⊢; exact fun hr => h hr.1
theorem C11_reject_propagates_any (o : Opts) (t : Ty) (v : Val) (h : encB o t v = none) :
    encB o .any (.any t v) = none := by
  rw [C11_reject] at h ⊢; exact fun hr => h hr.2.2.2

-- what comes back when the value is not canonical (by design of the codec, not defects); `C11_sentinel` is the
-- canonical counterpart of `C11_sentinel_uncached`

/-- float32 travels through float64 (`float32(value.Float())` / `SetFloat(float64(..))`): what comes back is
    the quieted bit pattern; every non-signalling value comes back bit for bit -/
theorem C11_float32 (o : Opts) (a b c d : UInt8) (rest : Bytes) (fuel : Nat) :
    encB o (.num .f32) (.num [a, b, c, d]) = some (quiet32 [a, b, c, d]) ∧
      dec o (fuel + 1) false (.num .f32) (quiet32 [a, b, c, d] ++ rest) = .ok (.num (quiet32 [a, b, c, d]), rest) := by
  constructor
  · simp [encB, encLeaf, numCanon, Num.width]
  · have hq := quiet32_idem [a, b, c, d]
    rcases quiet32_shape a b c d with h | h <;> rw [h] at hq ⊢ <;>
      simp [dec, Ty.leafTag, checkTag, decLeaf, numCanon, Num.width, hq]

/-- atoms: the receiver sees `dmap (emap a)` — the two AtomMappings applied in turn; with the identity
    mappings (or mappings that are inverse on `a`) the atom itself -/
theorem C11_atom (o : Opts) (hc : CachesConsistent o) (a rest : Bytes) (hl : (o.emap a).length ≤ 255) :
    readAtom o (writeAtom o a ++ rest) = .ok (o.dmap (o.emap a), rest) :=
  readAtom_writeAtom' o hc a rest hl

/-- a registered sentinel in the error cache comes back as the same sentinel -/
theorem C11_sentinel (o : Opts) (hc : CachesConsistent o) (k id : Nat) (hid : o.errId k = some id) (hgt : id > 32767)
    (rest : Bytes) (fuel : Nat) :
    ∃ e, encB o .error (.errSent k) = some e ∧ dec o (fuel + 1) false .error (e ++ rest) = .ok (.errSent k, rest) := by
  have hg : Good o .error (.errSent k) := by simp only [Good, LeafGood]; exact ⟨id, hid, by simpa [limErrIdEnc] using hgt⟩
  cases he : encB o .error (.errSent k) with
  | none => simp [encB, encLeaf, hid, limErrIdEnc, hgt] at he
  | some e => exact ⟨e, rfl, dec_encB o hc (fuel + 1) _ _ e rest he hg (by simp [Val.depth])⟩

/-- a sentinel that is NOT in the error cache travels as its text and comes back as a plain text error -/
theorem C11_sentinel_uncached (o : Opts) (k : Nat) (hid : o.errId k = none) (hl : (o.errText k).length ≤ 32767)
    (rest : Bytes) (fuel : Nat) :
    ∃ e, encB o .error (.errSent k) = some e ∧
      dec o (fuel + 1) false .error (e ++ rest) = .ok (.errText (o.errText k), rest) := by
  refine ⟨be16 (o.errText k).length ++ o.errText k, by simp [encB, encLeaf, hid, limErrorEnc]; omega, ?_⟩
  rw [dec_leaf (.plain (t := .error) rfl)]
  exact decLeaf_errText o _ hl rest

-- non-vacuity: the hypotheses of the theorems are satisfiable, with and without caches

/-- `P{A: "hi", B: []int16{1, -1}, C: any([]string(nil))}` -/
def pVal : Val :=
  .list (.cons (.str [0x68, 0x69]) (.cons (.list (.cons (.num [0, 1]) (.cons (.num [0xff, 0xff]) .nil)))
    (.cons (.any (.slice .str) .nil) .nil)))

theorem pVal_good (o : Opts) : Good o pTy pVal := by
  simp [pTy, pVal, Good, Goodf, Goods, LeafGood, DescOK, numCanon, lim32, Vals.length, Ty.nz, encTy]

theorem pTy_descOK (o : Opts) (h : o.reg pName = some pTy) : DescOK o pTy := ⟨h, by decide⟩

example : Good o0 pTy pVal := pVal_good o0
example : DescOK o0 pTy := pTy_descOK o0 rfl
example : Good o1 pTy pVal := pVal_good o1
example : DescOK o1 pTy := pTy_descOK o1 rfl
/-- the same value with and without the type cache: 3-byte cache id instead of the name -/
example : encode o0 pTy pVal = some [131, 0, 4, 0x23, 0x6d, 0x2f, 0x50, 0, 2, 0x68, 0x69, 157, 0, 0, 0, 2, 0, 1, 0xff, 0xff, 130, 0, 2, 157, 141, 255] := by decide
example : encode o1 pTy pVal = some [131, 0x13, 0x88, 0, 2, 0x68, 0x69, 157, 0, 0, 0, 2, 0, 1, 0xff, 0xff, 130, 0, 2, 157, 141, 255] := by decide
example : decode o1 5 [131, 0x13, 0x88, 0, 2, 0x68, 0x69, 157, 0, 0, 0, 2, 0, 1, 0xff, 0xff, 130, 0, 2, 157, 141, 255, 7] = .ok (some (pTy, pVal), [7]) := by decide
/-- cached atom and cached sentinel -/
example : encode o1 .atom (.atom [0x61, 0x62]) = some [140, 1, 44] := by decide
example : encode o1 .error (.errSent 0) = some [156, 0x9c, 0x40] := by decide
example : Good o1 .error (.errSent 0) := by simp [Good, LeafGood, o1, limErrIdEnc]
/-- `Rep`: the value above is representable; a 256-byte atom inside it is not -/
example : Rep o0 pTy pVal := by
  simp [pTy, pVal, Rep, Repf, Reps, LeafRep, Num.width, Ty.encodable]
example : ¬ Rep o0 (.slice .atom) (.list (.cons (.atom (List.replicate 256 0x61)) .nil)) := by
  simp only [Rep, Reps, LeafRep, List.length_replicate]; omega
/-- nil and empty stay apart -/
example : encode o0 (.slice .str) .nil ≠ encode o0 (.slice .str) (.list .nil) := by decide
example : encode o0 (.map .str .bool) .nil ≠ encode o0 (.map .str .bool) (.map .nil) := by decide

-- the caches two nodes negotiate are consistent (net/handshake/handshake.go:134-206)

open ErgoVerif.HsCache in
/-- The sender inverts its own id → value tables into encode caches, the receiver builds its decode caches from
    the very tables the sender announced.  With the ids the registration functions hand out (atoms 256.., types
    4096.., errors 32768..65534, all distinct) the result satisfies `CachesConsistent`, the hypothesis of the
    round-trip theorems — for every content of the tables. -/
theorem C11_handshake_caches (o : Opts) (atoms types : List (Nat × Bytes)) (errs : List (Nat × Nat))
    (ha : (atoms.map (·.1)).Nodup) (ht : (types.map (·.1)).Nodup) (he : (errs.map (·.1)).Nodup)
    (ra : ∀ e ∈ atoms, e.1 < 65536) (rt : ∀ e ∈ types, 4095 < e.1 ∧ e.1 < 65536) (re : ∀ e ∈ errs, e.1 < 65535)
    (h1 : o.atomId = encodeCache atoms) (h2 : o.atomOf = decodeCache atoms)
    (h3 : o.regId = encodeCache types) (h4 : o.regOf = decodeCache types)
    (h5 : o.errId = encodeCache errs) (h6 : o.errOf = fun id => (decodeCache errs id).map Val.errSent) :
    CachesConsistent o := by
  refine ⟨?_, ?_, ?_⟩
  · intro a id h _
    obtain ⟨hm, hd⟩ := decode_encode atoms ha a id (h1 ▸ h)
    exact ⟨ra _ hm, h2 ▸ hd⟩
  · intro nm id h
    obtain ⟨hm, hd⟩ := decode_encode types ht nm id (h3 ▸ h)
    exact ⟨(rt _ hm).1, (rt _ hm).2, h4 ▸ hd⟩
  · intro k id h _
    obtain ⟨hm, hd⟩ := decode_encode errs he k id (h5 ▸ h)
    exact ⟨re _ hm, by rw [h6]; exact congrArg (Option.map Val.errSent) hd⟩

end ErgoVerif.Props.C11
