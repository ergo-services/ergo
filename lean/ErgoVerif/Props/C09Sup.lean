import ErgoVerif.Lemmas.SupLoopSOFO
import ErgoVerif.Lemmas.SupTrackOFO2
/-!
# C09 (supervisor half) — giving up

"A supervisor gives up — stops all its children and terminates with the 'restart intensity exceeded'
reason — exactly when a child failure would require the (Intensity+1)-th restart within the period."
The window rule itself is `Props/C09.lean`.  Here: what the three state machines do with the verdict.
-/
namespace ErgoVerif.Props.C09
open ErgoVerif.Sup ErgoVerif.Spec.Sup ErgoVerif.Window

/-- reachable configurations of the closed simple-one-for-one system (`Model/SupLoop.lean`) -/
def SofoReach (sp : SupSpec) (c : Loop SOFO) : Prop := ∃ ls, run sofoStep (sofoBoot sp) ls = some c

/-- Step level, all states, all three types: when the failure needs a restart and the intensity check says
"exceeded", the answer is "stop every running child with ErrSupervisorRestartsExceeded" and that reason is
recorded as the supervisor's final reason (this is what D5 broke for one-for-one and all/rest-for-one). -/
theorem C09_gives_up_ofo (s : OFO) (name pid : Nat) (r : Reason) (now : Int)
    (hsd : s.shutdown = false) (k : Nat) (c : ChildSpec)
    (hf : (scan name pid 0 s.spec).found = some (k, c)) (hen : c.disabled = false)
    (hneed : needsRestart s.restart.strategy r = true)
    (hex : (check s.restarts now s.restart.periodMs s.restart.intensity).2 = true) :
    (s.childTerminated name pid r now).2 =
        .ok { act := .terminateChildren, terminate := runningPids (scan name pid 0 s.spec).spec, reason := some .restartsExceeded }
    ∧ (s.childTerminated name pid r now).1.shutdown = true
    ∧ (s.childTerminated name pid r now).1.shutdownReason = some .restartsExceeded
    ∧ (s.childTerminated name pid r now).1.wait = mkSet (scan name pid 0 s.spec).running := by
  have := OFO.decision s name pid r now hsd k c hf hen
  rwa [rule_restart hneed, hex] at this

theorem C09_gives_up_arfo (s : ARFO) (name pid : Nat) (r : Reason) (now : Int)
    (hm : s.mode = 0) (k : Nat) (c : ChildSpec)
    (hf : (scan name pid 0 s.spec).found = some (k, c)) (hen : c.disabled = false)
    (hneed : needsRestart s.restart.strategy r = true)
    (hex : (check s.restarts now s.restart.periodMs s.restart.intensity).2 = true) :
    (s.childTerminated name pid r now).2 =
        .ok { act := .terminateChildren, terminate := (scan name pid 0 s.spec).running, reason := some .restartsExceeded }
    ∧ (s.childTerminated name pid r now).1.mode = 3
    ∧ (s.childTerminated name pid r now).1.shutdownReason = some .restartsExceeded
    ∧ (s.childTerminated name pid r now).1.wait = mkSet (scan name pid 0 s.spec).running := by
  have := ARFO.decision s name pid r now hm k c hf hen
  rwa [rule_restart hneed, hex] at this

theorem C09_gives_up_sofo_step (s : SOFO) (name pid : Nat) (r : Reason) (now : Int)
    (hsd : s.shutdown = false) (c : ChildSpec)
    (hf : findName name s.spec = some c) (hen : c.disabled = false)
    (hneed : needsRestart s.restart.strategy r = true)
    (hex : (check s.restarts now s.restart.periodMs s.restart.intensity).2 = true) :
    (s.childTerminated name pid r now).2 =
        .ok { act := .terminateChildren, terminate := (s.pids.filter (·.1 ≠ pid)).map (·.1), reason := some .restartsExceeded }
    ∧ (s.childTerminated name pid r now).1.shutdown = true
    ∧ (s.childTerminated name pid r now).1.shutdownReason = some .restartsExceeded := by
  have := SOFO.decision s name pid r now hsd c hf hen
  rw [rule_restart hneed, hex] at this
  exact ⟨this.1, this.2.1, this.2.2.1⟩

/-- and at or below the limit the child is restarted (one-for-one; same for the other two through `ARFO.decision`, `SOFO.decision`) -/
theorem C09_keeps_restarting_ofo (s : OFO) (name pid : Nat) (r : Reason) (now : Int)
    (hsd : s.shutdown = false) (k : Nat) (c : ChildSpec)
    (hf : (scan name pid 0 s.spec).found = some (k, c)) (hen : c.disabled = false)
    (hneed : needsRestart s.restart.strategy r = true)
    (hex : (check s.restarts now s.restart.periodMs s.restart.intensity).2 = false) :
    (s.childTerminated name pid r now).2 = .ok { act := .start, spec := c }
    ∧ (s.childTerminated name pid r now).1.shutdown = false := by
  have := OFO.decision s name pid r now hsd k c hf hen
  rwa [rule_restart hneed, hex] at this

/-- Closed system, all histories (simple-one-for-one): once the supervisor has started to shut down with a
recorded reason `r0` (in particular after giving up: `r0 = restartsExceeded`), whatever happens afterwards —
children dying in any order, foreign exits, management calls — the recorded reason never changes, the
supervisor can only terminate with `r0`, it does so only when none of its children is left (neither running
nor with an unhandled exit), and as long as it has not terminated there is still a child it is waiting for
(so it terminates when the last exit is handled: no hang — this is what D14 broke). -/
theorem C09_gives_up_sofo (sp : SupSpec) (c c2 : Loop SOFO) (ls : List Label) (r0 : Reason)
    (hreach : SofoReach sp c) (hsd : c.m.shutdown = true) (hr0 : c.m.shutdownReason = some r0)
    (hrun : run sofoStep c ls = some c2) :
    c2.m.shutdownReason = some r0 ∧
    (∀ r, c2.status = .terminated r → r = r0 ∧ c2.alive = [] ∧ c2.inflight = []) ∧
    (c2.status = .running → ∃ p, p ∈ keys c2.kids) ∧
    c2.status ≠ .panicked ∧ c2.status ≠ .stuck := by
  have hst := shutdown_final (sd := (·.shutdown)) (sr := (·.shutdownReason))
    SOFO.step_stable hrun hsd
  have hinv : SOFO.Inv c2 :=
    run_inv (fun s a s' hi hs => SOFO.step_inv 1 s s' a hi hs) (SOFO.reach_inv hreach) hrun
  refine ⟨hst.2.trans hr0, fun r hr => ?_, fun hrun' => hinv.live hrun' hst.1, hinv.sane⟩
  have ⟨_, h2, h3⟩ := hinv.term r hr
  rw [hst.2, hr0] at h2
  exact ⟨(Option.some.inj h2).symm, hinv.glue.none_left h3⟩

/-- the same for one-for-one, over all histories that stay out of the listed region D26 (`ofoStepSafe`):
once shutting down with recorded reason `r0` (after giving up: `restartsExceeded`, by `C09_gives_up_ofo`), the reason
is final, the supervisor terminates only with `r0` and only when no child is left, and it cannot hang -/
theorem C09_gives_up_ofo_closed (sp : SupSpec) (hv : ValidSpec sp) (c c2 : Loop OFO) (ls0 ls : List Label) (r0 : Reason)
    (hreach : run ofoStepSafe (ofoBoot sp) ls0 = some c) (hsd : c.m.shutdown = true) (hr0 : c.m.shutdownReason = some r0)
    (hrun : run ofoStepSafe c ls = some c2) :
    c2.m.shutdownReason = some r0 ∧
    (∀ r, c2.status = .terminated r → r = r0 ∧ c2.alive = [] ∧ c2.inflight = []) ∧
    (c2.status = .running → ∃ p, p ∈ keys c2.kids) ∧
    c2.status ≠ .panicked ∧ c2.status ≠ .stuck := by
  have hst := shutdown_final (sd := (·.shutdown)) (sr := (·.shutdownReason))
    (fun s a s' hs => OFO.step_stable s a s' (ofoStepSafe_some hs).2) hrun hsd
  have ht : OFO.Track c2 := run_inv OFO.step_track (OFO.reach_track hv ⟨ls0, hreach⟩) hrun
  refine ⟨hst.2.trans hr0, fun r hr => ?_, fun hrun' => ht.live hrun' hst.1, ht.sane⟩
  have ⟨hreason, hk⟩ := ht.term r hr
  have h2 := hreason hst.1
  rw [hst.2, hr0] at h2
  exact ⟨(Option.some.inj h2).symm, ht.glue.none_left hk⟩

/-- non-vacuity for one-for-one: intensity 1, the second failure of c1 within the period; c2 is told to stop, dies,
and the supervisor terminates with restartsExceeded -/
example :
    let sp : SupSpec := { children := [(1, false), (2, false)], restart := { strategy := .permanent, intensity := 1, periodMs := 5000 } }
    ∃ c, run ofoStepSafe (ofoBoot sp)
        [.die 1 .kill, .deliver 1 1000 [], .die 3 .kill, .deliver 3 1100 [], .die 2 .restartsExceeded, .deliver 2 1200 []] = some c
      ∧ c.status = .terminated .restartsExceeded := by
  exact ⟨_, rfl, by decide⟩

/-- non-vacuity: a reachable configuration that is shutting down after giving up (intensity 1: the second
failure of the only spec within the period) and then terminates with restartsExceeded -/
example :
    let sp : SupSpec := { children := [(1, false)], restart := { strategy := .permanent, intensity := 1, periodMs := 5000 } }
    ∃ c, run sofoStep (sofoBoot sp)
        [.startChild 1 0 [], .startChild 1 0 [], .die 1 .kill, .deliver 1 1000 [], .die 3 .kill, .deliver 3 1100 []] = some c
      ∧ c.m.shutdown = true ∧ c.m.shutdownReason = some .restartsExceeded ∧ c.status = .running ∧ keys c.kids = [2] := by
  exact ⟨_, rfl, by decide⟩

example :
    let sp : SupSpec := { children := [(1, false)], restart := { strategy := .permanent, intensity := 1, periodMs := 5000 } }
    ∃ c, run sofoStep (sofoBoot sp)
        [.startChild 1 0 [], .startChild 1 0 [], .die 1 .kill, .deliver 1 1000 [], .die 3 .kill, .deliver 3 1100 [],
         .die 2 .restartsExceeded, .deliver 2 1200 []] = some c
      ∧ c.status = .terminated .restartsExceeded := by
  exact ⟨_, rfl, by decide⟩

end ErgoVerif.Props.C09
