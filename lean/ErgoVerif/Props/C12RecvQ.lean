import ErgoVerif.Model.RecvQ
import ErgoVerif.Generated.RecvQ
/-!
# C12 / C13 — the receive queue: every frame pushed is handled exactly once, in push order, and none is stranded

Theorems over `Model/RecvQ.lean` for every interleaving of any number of readers and workers.
-/
namespace ErgoVerif.Props.C12RecvQ
open ErgoVerif.RecvQ

/-- the code as it is: the worker releases the lock before it looks at the queue again (regenerated) -/
abbrev ub : Bool := Gen.RecvQ.unlockBeforeRecheck

/-- mutual exclusion, no stranded frame, nothing lost or duplicated (`wNil` is a program point of the other code
    shape only, `ub = false`: nobody is ever there) -/
def Inv (c : Cfg) : Prop :=
  (c.locked = true → c.wPop + c.wEmpty = 1) ∧ (c.locked = false → c.wPop + c.wEmpty = 0) ∧ c.wNil = 0 ∧
  (c.q ≠ [] → c.locked = true ∨ c.rPushed > 0 ∨ c.wUnl > 0 ∨ c.wSaw > 0) ∧
  c.handled ++ c.q = c.sent

theorem inv_init : Inv Cfg.init := by simp [Inv, Cfg.init]

theorem Inv.locked {c : Cfg} (h : Inv c) (hw : c.wPop ≠ 0 ∨ c.wEmpty ≠ 0) : c.locked = true := by
  cases hl : c.locked with
  | true => rfl
  | false => have := h.2.1 hl; omega

theorem step_inv (c : Cfg) (l : Lbl) (c' : Cfg) (h : Inv c) (hs : step true c l = some c') : Inv c' := by
  have ⟨h1, h2, h3, h4, h5⟩ := h
  cases l <;> simp only [step, if_true, Option.ite_none_left_eq_some, Option.ite_none_right_eq_some,
    Option.some.injEq] at hs
  case rPush m =>
    subst hs
    exact ⟨h1, h2, h3, fun _ => Or.inr (Or.inl (Nat.succ_pos _)), by simp [← h5]⟩
  case rLockOk | wLockOk =>
    obtain ⟨-, hl, rfl⟩ := hs
    have := h2 (Bool.not_eq_true _ ▸ hl)
    exact ⟨fun _ => by dsimp only; rw [Nat.add_right_comm, this], nofun, h3, fun _ => Or.inl rfl, h5⟩
  case rLockFail | wLockFail =>
    obtain ⟨-, hl, rfl⟩ := hs
    exact ⟨h1, h2, h3, fun _ => Or.inl hl, h5⟩
  case wPopSome =>
    obtain ⟨hw, hs⟩ := hs
    have hl := h.locked (.inl hw)
    split at hs
    · cases hs
    · rename_i m rest hq; cases hs
      exact ⟨h1, h2, h3, fun _ => Or.inl hl, by simp [← h5, hq]⟩
  case wPopNone =>
    obtain ⟨hw, hs⟩ := hs
    split at hs
    · rename_i hq; cases hs
      -- the lock holder moves from one program point to the next
      have e : c.wPop - 1 + (c.wEmpty + 1) = c.wPop + c.wEmpty := by
        rw [Nat.add_comm c.wEmpty, ← Nat.add_assoc, Nat.sub_one_add_one hw]
      exact ⟨fun hl => e.trans (h1 hl), fun hl => e.trans (h2 hl), h3, fun hne => absurd hq hne, h5⟩
    · cases hs
  case wUnlock =>
    obtain ⟨hw, rfl⟩ := hs
    have := h1 (h.locked (.inr hw))
    exact ⟨nofun, fun _ => by dsimp only; rw [← Nat.add_sub_assoc (Nat.pos_of_ne_zero hw), this], h3,
      fun _ => Or.inr (Or.inr (Or.inl (Nat.succ_pos _))), h5⟩
  case wItemNil =>
    obtain ⟨hw, hs⟩ := hs
    split at hs
    · rename_i hq; cases hs
      exact ⟨h1, h2, h3, fun hne => absurd hq hne, h5⟩
    · cases hs
  case wItemSome =>
    obtain ⟨hw, hs⟩ := hs
    split at hs
    · cases hs
    · cases hs
      exact ⟨h1, h2, h3, fun _ => Or.inr (Or.inr (Or.inr (Nat.succ_pos _))), h5⟩

theorem reach_inv {ls : List Lbl} {c : Cfg} (h : run (step true) Cfg.init ls = some c) : Inv c :=
  run_inv (Inv := Inv) step_inv inv_init h

/-- the statement, parametric in the code shape -/
def C12_recvq_full (b : Bool) : Prop :=
  ∀ (ls : List Lbl) (c : Cfg), run (step b) Cfg.init ls = some c →
    -- at most one worker is between taking the lock and giving it up
    (c.wPop + c.wEmpty + c.wNil ≤ 1) ∧
    -- frames are handled in push order, none twice, none invented
    (∃ rest, c.sent = c.handled ++ rest) ∧
    -- when every reader and worker has come to rest, every frame pushed has been handled
    (c.quiescent → c.q = [] ∧ c.handled = c.sent)

/-- **Receive queue, for the code as it is**: for every interleaving of any number of link readers and queue workers —
one worker at a time, frames handled exactly once in push order, and no frame is left in the queue without a
worker (no lost wake-up between `Push; Lock` and `Pop; Unlock; Item; Lock`). -/
theorem C12_recvq : C12_recvq_full ub := by
  have hub : ub = true := by decide
  rw [hub]
  intro ls c hr
  have h := reach_inv hr
  obtain ⟨h1, h2, h3, h4, h5⟩ := h
  refine ⟨?_, ⟨c.q, h5.symm⟩, ?_⟩
  · cases hc : c.locked with
    | true => rw [h1 hc, h3]; decide
    | false => rw [h2 hc, h3]; decide
  · intro ⟨q1, q2, q3, q4, q5, _⟩
    have hl : ¬ c.locked = true := fun hc => absurd (h1 hc) (by rw [q2, q3]; decide)
    have hq : c.q = [] := Decidable.byContradiction fun hne => by
      rcases h4 hne with h | h | h | h
      · exact hl h
      · exact Nat.ne_of_gt h q1
      · exact Nat.ne_of_gt h q4
      · exact Nat.ne_of_gt h q5
    exact ⟨hq, by rw [← h5, hq, List.append_nil]⟩

/-- The other order (look at the queue while still holding the lock, then unlock and exit) strands a frame: a reader
pushes and fails to get the lock between the worker's look and its unlock. Kept as a regression statement for the
seeded change C12-1. -/
theorem C12_recvq_recheck_under_lock_loses : ¬ C12_recvq_full false := by
  intro h
  have := (h [.rPush 1, .rLockOk, .wPopSome, .wPopNone, .wItemNil, .rPush 2, .rLockFail, .wUnlock]
    ⟨[2], false, [1, 2], [1], 0, 0, 0, 0, 0, 0⟩ (by decide)).2.2 (by decide)
  simp at this

/-- whenever somebody is between two queue operations, one of the steps that continue such an operation (any label but
a fresh `rPush`, which is always enabled) is enabled -/
theorem progress (ls : List Lbl) (c : Cfg) (hr : run (step true) Cfg.init ls = some c) (hq : ¬ c.quiescent) :
    ∃ l, (∀ m, l ≠ .rPush m) ∧ (step true c l).isSome = true := by
  obtain ⟨_, _, h3, _, _⟩ := reach_inv hr
  unfold Cfg.quiescent at hq
  by_cases a1 : c.rPushed = 0
  · by_cases a2 : c.wPop = 0
    · by_cases a3 : c.wEmpty = 0
      · by_cases a4 : c.wUnl = 0
        · by_cases a5 : c.wSaw = 0
          · exact absurd ⟨a1, a2, a3, a4, a5, h3⟩ hq
          · cases hl : c.locked with
            | true => exact ⟨.wLockFail, nofun, by simp [step, a5, hl]⟩
            | false => exact ⟨.wLockOk, nofun, by simp [step, a5, hl]⟩
        · cases hq' : c.q with
          | nil => exact ⟨.wItemNil, nofun, by simp [step, a4, hq']⟩
          | cons m r => exact ⟨.wItemSome, nofun, by simp [step, a4, hq']⟩
      · exact ⟨.wUnlock, nofun, by simp [step, a3]⟩
    · cases hq' : c.q with
      | nil => exact ⟨.wPopNone, nofun, by simp [step, a2, hq']⟩
      | cons m r => exact ⟨.wPopSome, nofun, by simp [step, a2, hq']⟩
  · cases hl : c.locked with
    | true => exact ⟨.rLockFail, nofun, by simp [step, a1, hl]⟩
    | false => exact ⟨.rLockOk, nofun, by simp [step, a1, hl]⟩

/-- no deadlock: whenever somebody is between two queue operations, some step is enabled -/
theorem C12_recvq_progress (ls : List Lbl) (c : Cfg) (hr : run (step true) Cfg.init ls = some c)
    (hq : ¬ c.quiescent) : ∃ l, (step true c l).isSome = true :=
  let ⟨l, _, h⟩ := progress ls c hr hq; ⟨l, h⟩

/-- non-vacuity: two readers, three frames, a worker that goes round the re-check once -/
example : ∃ c, run (step true) Cfg.init
    [.rPush 1, .rLockOk, .rPush 2, .wPopSome, .rLockFail, .wPopSome, .wPopNone, .wUnlock, .rPush 3, .wItemSome, .rLockOk,
     .wLockFail, .wPopSome, .wPopNone, .wUnlock, .wItemNil] = some c ∧ c.quiescent ∧ c.handled = [1, 2, 3] := by
  refine ⟨⟨[], false, [1, 2, 3], [1, 2, 3], 0, 0, 0, 0, 0, 0⟩, by decide, by decide, rfl⟩

end ErgoVerif.Props.C12RecvQ
