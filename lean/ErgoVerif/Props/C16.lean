import ErgoVerif.Lemmas.EdfSafe
import ErgoVerif.Lemmas.EdfReenc
import ErgoVerif.Lemmas.EdfDecGood
import ErgoVerif.Lemmas.EdfFuel
import ErgoVerif.Model.EdfAlloc
import ErgoVerif.Props.C11
/-!
# C16 (EDF part) — hostile input safety of edf.Decode

The decoder model makes Go's partial operations explicit: `Res = ok | err | panic`, `panic` exactly at the
reflect panics a packet can trigger after the D4/D4b repairs (reflect.ArrayOf size overflow, reflect.MapOf on a
non-comparable key type, SetMapIndex with an unhashable dynamic key).  `decode = recover ∘ decodeRaw` is
edf.Decode with its deferred recover (lib.Recover() is true in the default build).

* termination: `decode` is a total function (Lean); `C16_fuel_stable`: the fuel only bounds the nesting depth — a value
  or panic answer never changes with more fuel; `C16_api_no_panic` / `C16_api_total`: at the API the outcome is a
  value or an error.
* `C16_no_panic_full` (the raw decoder never panics) is refuted by `C16_panic_arrayOf` / `C16_panic_unhashable_key`
  — both are recovered at the API; `C16_no_panic_partial`: panics are confined to interface-typed positions,
  `C16_panic_sources` locates them.
* allocation: `C16_alloc_full` (4 KiB per input byte + 64 KiB) is refuted by the 9-byte packet of D23
  (`C16_alloc_counterexample`, listed finding C16/edf-alloc-array); `C16_alloc_nested` is the quadratic nested-slice
  witness (D29, listed C16/edf-alloc-nested).  No linear bound is proved for the remaining inputs (the harness
  checks the bound on every packet of the malformed stream outside the listed regions).
* re-encoding: `C16_reencode_full` is refuted in the zero-width region (`C16_reencode_counterexample`, the same
  defect as C11/zero-width-elements); `C16_reencode_partial` holds outside it for EVERY decoded value (the
  canonical-form conditions are proved of decoded values: `dec_good`), `C16_reencode_of_good` is the version with
  `Good` as a hypothesis.
-/
namespace ErgoVerif.Props.C16
-- `o0`, `pTy`, `pVal` and their lemmas of `Props/C11` serve as fixtures here
open ErgoVerif.Edf ErgoVerif.Props.C11

/-- edf.Decode never lets a panic escape: its whole body runs under the deferred recover -/
theorem C16_api_no_panic (o : Opts) (fuel : Nat) (bs : Bytes) : decode o fuel bs ≠ .panic := by
  unfold decode recover
  split <;> simp_all

/-- … so for every byte string the outcome is a value (with the unread rest) or an error -/
theorem C16_api_total (o : Opts) (fuel : Nat) (bs : Bytes) :
    decode o fuel bs = .err ∨ ∃ x, decode o fuel bs = .ok x := by
  cases h : decode o fuel bs with
  | ok x => exact Or.inr ⟨x, rfl⟩
  | err => exact Or.inl rfl
  | panic => exact absurd h (C16_api_no_panic o fuel bs)

/-- Termination: the fuel of the model only bounds the nesting depth. Once the decoder has answered with a value or a
    panic, more fuel never changes the answer (only `err` can be an artefact of too little fuel; the driver runs with
    fuel = input length + registry depth, and the correspondence harness would see such an artefact as a disagreement). -/
theorem C16_fuel_stable (o : Opts) (f g : Nat) (h : f ≤ g) (bs : Bytes) :
    decodeRaw o f bs = .err ∨ decodeRaw o g bs = decodeRaw o f bs := by
  rw [decodeRaw_eq, decodeRaw_eq]
  rcases dec_mono o (f + 1) (g + 1) (by omega) true .any bs with h1 | h1
  · left; rw [h1]
  · right; rw [h1]


def C16_no_panic_full : Prop := ∀ (o : Opts) (fuel : Nat) (bs : Bytes), decodeRaw o fuel bs ≠ .panic

/-- edtType, fold = [2^32-1][2^32-1][2^32-1]uint8: reflect.ArrayOf panics ("array size would exceed virtual address space") -/
def pktArrayOf : Bytes := [130, 0, 16, 158, 255, 255, 255, 255, 158, 255, 255, 255, 255, 158, 255, 255, 255, 255, 151]

theorem C16_panic_arrayOf : decodeRaw o0 8 pktArrayOf = .panic ∧ decode o0 8 pktArrayOf = .err := by
  constructor <;> decide

/-- map[any]bool with one key holding a []uint8: SetMapIndex panics ("hash of unhashable type") -/
def pktUnhashable : Bytes := [130, 0, 3, 159, 132, 145, 159, 0, 0, 0, 1, 130, 0, 2, 157, 151, 255, 1]

theorem C16_panic_unhashable_key : decodeRaw o0 8 pktUnhashable = .panic ∧ decode o0 8 pktUnhashable = .err := by
  constructor <;> decide

theorem C16_no_panic_counterexample : ¬ C16_no_panic_full :=
  fun h => h o0 8 pktArrayOf C16_panic_arrayOf.1

/-- Panics are confined to interface-typed positions: on a statically panic-free type (`Ty.pf`: no `any`
    anywhere inside, every map key type free of interfaces) the raw decoder never panics, for any bytes, any fuel,
    any registry — no type descriptor is read and every decoded key is hashable. -/
theorem C16_no_panic_partial (o : Opts) (fuel : Nat) (dt : Bool) (t : Ty) (bs : Bytes) (h : t.pf = true) :
    dec o fuel dt t bs ≠ .panic :=
  dec_pf o fuel dt t bs h

/-- a panic of edf.Decode's body comes from unfolding the top-level descriptor (reflect.ArrayOf / reflect.MapOf)
    or from a top-level type that has an interface-typed position -/
theorem C16_panic_sources (o : Opts) (fuel : Nat) (bs : Bytes) (h : decodeRaw o fuel bs = .panic) :
    getDecoder o true bs = .panic ∨ ∃ t r dt, getDecoder o true bs = .ok (some t, r, dt) ∧ t.pf = false := by
  revert h
  fun_cases decodeRaw o fuel bs <;> intro h <;> cases h
  · next t r dt hg hp =>
    refine .inr ⟨t, r, dt, hg, ?_⟩
    cases hpf : t.pf with
    | false => rfl
    | true => exact absurd hp (C16_no_panic_partial o fuel dt t r hpf)
  · exact .inl ‹_›

/-- non-vacuity: the registered struct of `Props/C11` without its interface field is panic-free; with it, it is not -/
example : (Ty.struct pName (.cons .str (.cons (.slice (.num .i16)) .nil))).pf = true := by decide
example : pTy.pf = false := by decide
example : (Ty.map (.array 4 (.num .u8)) (.slice .str)).pf = true := by decide


/-- allocation proportional to the input: 4 KiB per input byte plus 64 KiB -/
def C16_alloc_full : Prop := ∀ (o : Opts) (fuel : Nat) (bs : Bytes), allocTop o fuel bs ≤ 4096 * bs.length + 65536

/-- D23: edtType, fold = [2^28]uint8 — nine bytes make reflect.New allocate 256 MiB (and the decode then fails with
    "end of data") -/
def pktD23 : Bytes := [130, 0, 6, 158, 16, 0, 0, 0, 151]

theorem C16_alloc_d23 : allocTop o0 8 pktD23 = 268435456 ∧ decode o0 8 pktD23 = .err := by
  constructor <;> decide

theorem C16_alloc_counterexample : ¬ C16_alloc_full := by
  intro h
  have := h o0 8 pktD23
  rw [C16_alloc_d23.1] at this
  simp [pktD23] at this

/-- D29: nested unnamed slices. The element-count check `n > len(packet)` bounds every level by the bytes that remain,
    so a descriptor `[][]…[]uint8` of depth d followed by d slice headers allocates about 60·d² bytes from 6·d
    bytes of input: depth 40 below (244 bytes → 93 624 bytes); the harness measures 65 MB for the 6 004-byte packet
    of depth 1000 (listed finding C16/edf-alloc-nested), which is beyond the bound of `C16_alloc_full`. -/
def pktNested40 : Bytes := [130, 0, 41, 157, 157, 157, 157, 157, 157, 157, 157, 157, 157, 157, 157, 157, 157, 157, 157, 157, 157, 157, 157, 157, 157, 157, 157, 157, 157, 157, 157, 157, 157, 157, 157, 157, 157, 157, 157, 157, 157, 157, 157, 151, 157, 0, 0, 0, 195, 157, 0, 0, 0, 190, 157, 0, 0, 0, 185, 157, 0, 0, 0, 180, 157, 0, 0, 0, 175, 157, 0, 0, 0, 170, 157, 0, 0, 0, 165, 157, 0, 0, 0, 160, 157, 0, 0, 0, 155, 157, 0, 0, 0, 150, 157, 0, 0, 0, 145, 157, 0, 0, 0, 140, 157, 0, 0, 0, 135, 157, 0, 0, 0, 130, 157, 0, 0, 0, 125, 157, 0, 0, 0, 120, 157, 0, 0, 0, 115, 157, 0, 0, 0, 110, 157, 0, 0, 0, 105, 157, 0, 0, 0, 100, 157, 0, 0, 0, 95, 157, 0, 0, 0, 90, 157, 0, 0, 0, 85, 157, 0, 0, 0, 80, 157, 0, 0, 0, 75, 157, 0, 0, 0, 70, 157, 0, 0, 0, 65, 157, 0, 0, 0, 60, 157, 0, 0, 0, 55, 157, 0, 0, 0, 50, 157, 0, 0, 0, 45, 157, 0, 0, 0, 40, 157, 0, 0, 0, 35, 157, 0, 0, 0, 30, 157, 0, 0, 0, 25, 157, 0, 0, 0, 20, 157, 0, 0, 0, 15, 157, 0, 0, 0, 10, 157, 0, 0, 0, 5, 157, 0, 0, 0, 1]

theorem C16_alloc_nested : allocTop o0 60 pktNested40 = 93624 ∧ pktNested40.length = 244 ∧ decode o0 60 pktNested40 = .err :=
  ⟨rfl, rfl, rfl⟩


theorem o0_decside : DecSideOK o0 := by
  refine ⟨by simp [o0], by simp [o0], by simp [o0], ?_⟩
  intro nm t h
  rcases o0_reg_cases h with rfl | rfl
  · exact ⟨rfl, by simp [zsTy]⟩
  · exact ⟨rfl, by simp [pTy]⟩

def C16_reencode_full : Prop :=
  ∀ (o : Opts) (fuel : Nat) (bs : Bytes) (t : Ty) (v : Val) (rest : Bytes), CachesConsistent o → DecSideOK o →
    bs.length < 4294967295 → decodeRaw o fuel bs = .ok (some (t, v), rest) →
    ∃ bs', encode o t v = some bs' ∧ decodeRaw o fuel bs' = .ok (some (t, v), [])

/-- `[1]ZS` followed by one more byte decodes (the packet is not empty when the array decoder starts); the value
    re-encodes to the descriptor alone, which no longer decodes (zero-width elements, the defect of C11/F2) -/
def pktZw : Bytes := [130, 0, 16, 158, 0, 0, 0, 1, 131, 0, 8, 0x23, 0x6d, 0x61, 0x69, 0x6e, 0x2f, 0x5a, 0x53, 0]

theorem C16_reencode_witness :
    decodeRaw o0 4 pktZw = .ok (some (.array 1 zsTy, .list (.cons (.list .nil) .nil)), [0]) ∧
    encode o0 (.array 1 zsTy) (.list (.cons (.list .nil) .nil)) = some (pktZw.take 19) ∧
    decodeRaw o0 4 (pktZw.take 19) = .err := by
  refine ⟨by decide, by decide, by decide⟩

theorem C16_reencode_counterexample : ¬ C16_reencode_full := by
  intro h
  obtain ⟨bs', h1, h2⟩ := h o0 4 pktZw _ _ _ o0_consistent o0_decside (by decide) C16_reencode_witness.1
  rw [C16_reencode_witness.2.1] at h1
  cases h1
  rw [C16_reencode_witness.2.2] at h2
  cases h2

/-- Outside the defect regions (`Good`, see `Props/C11`): whatever edf.Decode returns for a packet shorter than
    4 GiB can be encoded again, and those bytes decode to the same value of the same type with nothing left over. -/
theorem C16_reencode_of_good (o : Opts) (hc : CachesConsistent o) (hd : DecSideOK o) (fuel : Nat) (bs : Bytes)
    (t : Ty) (v : Val) (rest : Bytes) (hL : bs.length < 4294967295)
    (h : decodeRaw o fuel bs = .ok (some (t, v), rest))
    (hdesc : DescOK o t) (hl : (encTy o t).length < 65536) (hg : Good o t v) :
    ∃ bs', encode o t v = some bs' ∧ decodeRaw o fuel bs' = .ok (some (t, v), []) := by
  -- `dec_reenc` at the type `any`: the value in the interface slot is `.any t v`, and `encB` of it is `encode o t v`
  obtain ⟨hdep, _, he⟩ := dec_reenc o hd (fuel + 1) true .any bs _ rest (decodeRaw_any h) hL
  obtain ⟨bs', hb⟩ := Option.isSome_iff_exists.1 (encB_any o t v ▸ he)
  simp only [Val.depth] at hdep
  exact ⟨bs', hb, by simpa using decodeRaw_encode o hc t v bs' [] fuel hb hdesc hl hg (by omega)⟩

/-- non-vacuity of `C16_reencode_of_good`: the 26-byte encoding of `P{"hi", []int16{1,-1}, any([]string(nil))}` decodes,
    the decoded value satisfies the hypotheses, hence re-encodes and decodes again -/
example : ∃ bs', encode o0 pTy pVal = some bs' ∧ decodeRaw o0 5 bs' = .ok (some (pTy, pVal), []) :=
  C16_reencode_of_good o0 o0_consistent o0_decside 5
    [131, 0, 4, 0x23, 0x6d, 0x2f, 0x50, 0, 2, 0x68, 0x69, 157, 0, 0, 0, 2, 0, 1, 0xff, 0xff, 130, 0, 2, 157, 141, 255]
    pTy pVal [] (by decide) (by decide)
    (pTy_descOK o0 rfl) (by decide) (pVal_good o0)

/-- The strongest re-encoding statement for the current code, with no hypothesis about the decoded value other than
    the two decidable side conditions of `Side`: it lies outside the zero-width defect region, and the descriptors
    of its dynamic types fit the 16-bit length field when written again.  Everything else `Good` asks for is
    PROVED of every decoded value (`dec_good`): registered dynamic types, map keys distinct and hashable, lengths
    below 2^32, quiet float32 NaNs, atoms and sentinels the encoding side can express (`DecGoodOK`: the decode-side
    caches and mappings hand out only such atoms/errors — with identity mappings and caches built by the handshake
    this is the inverse direction of `CachesConsistent`). -/
theorem C16_reencode_partial (o : Opts) (hc : CachesConsistent o) (hd : DecSideOK o) (hg : DecGoodOK o) (fuel : Nat)
    (bs : Bytes) (t : Ty) (v : Val) (rest : Bytes) (hL : bs.length < 4294967295)
    (h : decodeRaw o fuel bs = .ok (some (t, v), rest))
    (hl : (encTy o t).length < 65536) (hs : Side o t v) :
    ∃ bs', encode o t v = some bs' ∧ decodeRaw o fuel bs' = .ok (some (t, v), []) := by
  -- `dec_good` at the type `any`: the clauses of `Side` and `Good` for `.any t v` are the hypotheses at the top
  obtain ⟨hdesc, _, hgood⟩ := dec_good o hg (fuel + 1) true .any bs _ rest (decodeRaw_any h) ⟨hl, hs⟩
  exact C16_reencode_of_good o hc hd fuel bs t v rest hL h hdesc hl hgood

theorem o0_decgood : DecGoodOK o0 := by
  refine ⟨?_, by simp [o0], by simp [o0], ?_⟩
  · intro a ha; simp [AtomOK, o0]; exact ha
  · intro nm t h
    rcases o0_reg_cases h with rfl | rfl
    · simp [DescOK, zsTy, RegOK, o0, Ty.closed, zsName]
    · exact ⟨pTy_descOK o0 rfl, rfl⟩

/-- non-vacuity: the hypotheses hold for the packet of the previous example; `Side` is all that is asked of the value -/
example : Side o0 pTy pVal := by simp [pTy, pVal, Side, Sidef, Sides, Ty.nz, encTy, Vals.length]

end ErgoVerif.Props.C16
