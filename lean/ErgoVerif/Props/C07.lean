import ErgoVerif.Lemmas.Call
import ErgoVerif.Lemmas.Ref
/-!
# C07 — request/response correlation

`Model/Call.lean`: the caller's buffered response channel and `waitResponse`. References come from
`MakeRef`, which is injective in the node's counter (`Props/C06.lean`, repeated here as the freshness premise).
-/
namespace ErgoVerif.Props.C07
open ErgoVerif.Call

/-- **A reply is consumed at most once**: the replies taken out of the channel are, in order, a prefix of the replies
that were accepted; nothing is consumed that was not delivered and no delivery is consumed twice. Refused
hand-overs (`ErrResponseIgnored`) are never consumed. -/
theorem C07_consumed_once (ops : List Op) :
    (runOps ops).consumed.reverse <+: (runOps ops).delivered.reverse ∧
    (runOps ops).consumed.length + (runOps ops).chan.length = (runOps ops).delivered.length ∧
    (runOps ops).chan.length ≤ cap := by
  have hi := runOps_inv ops
  refine ⟨⟨_, hi.conserve.symm⟩, ?_, hi.chan_cap⟩
  have := congrArg List.length hi.conserve
  simp at this
  omega

/-- **A call returns only a reply made for that very request.** For every history of calls, deliveries of replies
of any age (late, duplicate, from any process), receive steps and timeouts: if a call with reference `r` returned
the value `v`, then a reply carrying exactly `r` and `v` was handed to this process, and `r` is the reference of a
call this process made. -/
theorem C07_own_reply (ops : List Op) (r : Ref) (v : Nat)
    (h : (r, Outcome.value v) ∈ (runOps ops).returned) :
    (⟨r, v⟩ : Reply) ∈ (runOps ops).delivered ∧ r ∈ (runOps ops).issued :=
  -- the value returned was consumed under the call's reference, and what is consumed was delivered
  have ⟨hc, hiss⟩ := (runOps_inv ops).returned_ok r v h
  ⟨List.mem_reverse.mp ((C07_consumed_once ops).1.subset (List.mem_reverse.mpr hc)), hiss⟩

/-- references are fresh: distinct counter values give distinct references (MakeRef, regenerated from the source),
so "carries the reference of this call" means "was produced for this call" as long as the callee copies the
reference it was given. -/
theorem C07_refs_fresh (a b : BitVec 64) (hne : a ≠ b) :
    (Gen.Ref.makeRef0 a, Gen.Ref.makeRef1 a, Gen.Ref.makeRef2 a) ≠ (Gen.Ref.makeRef0 b, Gen.Ref.makeRef1 b, Gen.Ref.makeRef2 b) := by
  intro h
  simp only [Prod.mk.injEq] at h
  exact hne (Ref.makeRef_inj a b h.1 h.2.1)

/-- **A call returns at most once**: completed calls plus the pending one (if any) are exactly the calls issued. -/
theorem C07_returns_once (ops : List Op) :
    (runOps ops).returned.length + (if (runOps ops).waiting.isSome then 1 else 0) = (runOps ops).issued.length ∧
    ∀ r o, (r, o) ∈ (runOps ops).returned → r ∈ (runOps ops).issued :=
  ⟨(runOps_inv ops).count, (runOps_inv ops).returned_issued⟩

/-- a stale reply never completes a later call: with the late reply to request 1 arriving while request 2 waits,
request 2 still returns its own value (non-vacuity + the scenario of the property's statement) -/
example : (runOps [.call 1, .timeout, .call 2, .deliver ⟨1, 100⟩, .recv, .deliver ⟨2, 200⟩, .recv]).returned
    = [(2, .value 200), (1, .timeout)] := by decide

end ErgoVerif.Props.C07
