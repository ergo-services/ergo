import ErgoVerif.Model.SupDefaults
import ErgoVerif.Lemmas.Window
import ErgoVerif.Generated.SupDefaults
/-!
# C09 — "all values of Intensity and Period": zero means the default

The window rule (Props/C09) is stated for the options the state machines get. These theorems cover the step before:
what they get for every pair the developer may write, zero included.

* `C09_defaults`            — for the code as it is (regenerated constants and shape): both effective values are positive,
                              a non-zero value is kept, a zero one becomes its default — independently of the other field
* `C09_defaults_paired_loses` — defaulting only as a pair lets a zero through, and what a zero does to the window rule:
  `C09_zero_intensity_gives_up_at_once` (the first failure already exceeds) and
  `C09_zero_window_never_gives_up` (failures at least 1 ms apart never exceed any limit ≥ 1)
-/
namespace ErgoVerif.Props.C09Defaults
open ErgoVerif.SupDefaults ErgoVerif.Window

theorem C09_defaults_full (ind : Bool) (hind : ind = true) (di dp : Nat) (hdi : 0 < di) (hdp : 0 < dp) (i p : Nat) :
    0 < (eff ind di dp i p).1 ∧ 0 < (eff ind di dp i p).2 ∧
    (i ≠ 0 → (eff ind di dp i p).1 = i) ∧ (p ≠ 0 → (eff ind di dp i p).2 = p) ∧
    (i = 0 → (eff ind di dp i p).1 = di) ∧ (p = 0 → (eff ind di dp i p).2 = dp) := by
  subst hind
  simp only [eff, if_true]
  exact ⟨by split <;> omega, by split <;> omega, fun h => if_neg h, fun h => if_neg h, fun h => if_pos h,
    fun h => if_pos h⟩

theorem C09_code_shape_defaults :
    ErgoVerif.Gen.SupDefaults.defaultsIndependent = true ∧ 0 < ErgoVerif.Gen.SupDefaults.defaultIntensity ∧
    0 < ErgoVerif.Gen.SupDefaults.defaultPeriod := by decide

/-- for the code as it is -/
theorem C09_defaults (i p : Nat) :
    let e := eff ErgoVerif.Gen.SupDefaults.defaultsIndependent ErgoVerif.Gen.SupDefaults.defaultIntensity
      ErgoVerif.Gen.SupDefaults.defaultPeriod i p
    0 < e.1 ∧ 0 < e.2 ∧ (i ≠ 0 → e.1 = i) ∧ (p ≠ 0 → e.2 = p) ∧
    (i = 0 → e.1 = ErgoVerif.Gen.SupDefaults.defaultIntensity) ∧ (p = 0 → e.2 = ErgoVerif.Gen.SupDefaults.defaultPeriod) :=
  C09_defaults_full _ C09_code_shape_defaults.1 _ _ C09_code_shape_defaults.2.1 C09_code_shape_defaults.2.2 i p

/-- defaulting only as a pair hands a zero window or a zero limit to the state machine -/
theorem C09_defaults_paired_loses : eff false 5 5 3 0 = (3, 0) ∧ eff false 5 5 0 3 = (0, 3) := by decide

/-- a zero limit: the very first failure exceeds it -/
theorem C09_zero_intensity_gives_up_at_once (period : Int) (hp : 0 ≤ period) (t : Int) :
    runSpec period 0 [] [t] = [true] := by
  simp [runSpec, inWindow_singleton t period hp]

/-- a zero window: a failure later than all earlier ones is alone in it, so no limit ≥ 1 is ever exceeded -/
theorem C09_zero_window_never_gives_up (k : Nat) (hk : 1 ≤ k) (pre : List Int) (t : Int) (h : ∀ x ∈ pre, x < t) :
    decide (inWindow (pre ++ [t]) t 0 > k) = false := by
  rw [inWindow_append, inWindow_zero_of_old pre t 0 (fun d hd => by have := h d hd; omega),
    inWindow_singleton t 0 (Int.le_refl 0)]
  simp; omega

/-! non-vacuity -/
example : eff true 5 5 3 0 = (3, 5) ∧ eff true 5 5 0 3 = (5, 3) ∧ eff true 5 5 0 0 = (5, 5) := by decide

end ErgoVerif.Props.C09Defaults
