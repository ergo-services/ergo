import ErgoVerif.Model.AppStartRace
import ErgoVerif.Generated.AppStart
/-!
# C17 — a failed start does not reach into the next run

`Model/AppStartRace.lean`: the roll-back of a failed start, the late termination of a member it killed, the next start.
-/
namespace ErgoVerif.Props.C17StartRace
open ErgoVerif.AppStartRace

/-- full statement, parametric in the code shape: whatever the interleaving, once the failed start, the late
termination of its member and the next start are all over, the application is running, its Start callback ran and no
Terminate callback did -/
def C17_failed_start_isolated_full (rm : Bool) : Prop :=
  ∀ ls c, run rm init ls = some c → c.s1 = .done → c.s2 = .done → c.t = .done →
    c.running = true ∧ c.started = true ∧ c.termCb = false

/-- the code before the repair of D32 (the killed member stays in the group): roll back · start #2 takes the state ·
the member's termination finds it in the group, the group empty, swaps the state back to loaded and calls Terminate ·
start #2 stores its member and calls Start: an application that is `loaded`, with a live member, whose Terminate ran.
Kept as a regression statement. -/
theorem C17_D32_before_fix : ¬ C17_failed_start_isolated_full false := by
  intro h
  have := h [.a, .a, .a, .a, .b, .t, .t, .t, .b, .b]
    ⟨false, false, true, true, true, true, .done, .done, .done⟩ (by decide) rfl rfl rfl
  simp at this

namespace Proof

/-- the reachable configurations with the removal in place. The list was found outside the development and nothing is
trusted about it: `closed` checks that it is closed under every step, `finals` reads the property off it, and
`C17_failed_start_isolated` checks that it contains `init`. -/
def reachable : List Cfg := [
  ⟨true, false, false, false, false, false, .store, .cas, .idle⟩,
  ⟨true, true, false, false, false, false, .fail, .cas, .idle⟩,
  ⟨true, true, false, false, false, false, .remove, .cas, .idle⟩,
  ⟨true, false, false, false, false, false, .setLoaded, .cas, .idle⟩,
  ⟨false, false, false, false, false, false, .kill, .cas, .idle⟩,
  ⟨false, false, false, false, false, false, .done, .cas, .delete⟩,
  ⟨true, false, false, false, false, false, .kill, .store, .idle⟩,
  ⟨true, false, false, false, false, false, .done, .store, .delete⟩,
  ⟨false, false, false, false, false, false, .done, .cas, .check⟩,
  ⟨true, false, true, false, false, false, .kill, .callback, .idle⟩,
  ⟨true, false, true, false, false, false, .done, .callback, .delete⟩,
  ⟨true, false, false, false, false, false, .done, .store, .check⟩,
  ⟨false, false, false, false, false, false, .done, .cas, .done⟩,
  ⟨true, false, true, false, true, false, .kill, .done, .idle⟩,
  ⟨true, false, true, false, true, false, .done, .done, .delete⟩,
  ⟨true, false, true, false, false, false, .done, .callback, .check⟩,
  ⟨true, false, false, false, false, false, .done, .store, .done⟩,
  ⟨true, false, true, false, true, false, .done, .done, .check⟩,
  ⟨true, false, true, false, false, false, .done, .callback, .done⟩,
  ⟨true, false, true, false, true, false, .done, .done, .done⟩]

def closedAt (c : Cfg) (l : Lbl) : Bool :=
  match step true c l with
  | some c' => reachable.contains c'
  | none => true

theorem closed : (reachable.all fun c => closedAt c .a && closedAt c .b && closedAt c .t) = true := by decide

theorem finals : ∀ c ∈ reachable, c.s1 = .done → c.s2 = .done → c.t = .done →
    c.running = true ∧ c.started = true ∧ c.termCb = false := by decide

theorem step_reachable {c c1 : Cfg} {l : Lbl} (h : c ∈ reachable) (hs : step true c l = some c1) : c1 ∈ reachable := by
  have hc := List.all_eq_true.mp closed c h
  simp only [Bool.and_eq_true] at hc
  have h1 : closedAt c l = true := by cases l <;> simp [hc.1.1, hc.1.2, hc.2]
  simpa [closedAt, hs] using h1

theorem run_reachable (ls : List Lbl) (c c' : Cfg) (h : c ∈ reachable) (hr : run true c ls = some c') :
    c' ∈ reachable := by
  fun_induction run true c ls
  · cases hr; exact h
  · cases hr
  · next c l ls c1 hs ih => exact ih (step_reachable h hs) hr

end Proof

/-- **A failed start is isolated from the next run, for the code as it is** (`Gen.AppStart.rollbackRemovesMembers`,
regenerated from application.start). -/
theorem C17_failed_start_isolated : C17_failed_start_isolated_full ErgoVerif.Gen.AppStart.rollbackRemovesMembers := by
  have h : ErgoVerif.Gen.AppStart.rollbackRemovesMembers = true := by decide
  rw [h]
  exact fun ls c hr => Proof.finals c (Proof.run_reachable ls init c (by decide) hr)

/-- non-vacuity: the interleaving that broke the code before the repair now ends well -/
example : (run true init [.a, .a, .a, .a, .a, .b, .t, .t, .b, .b]).map (fun c => (c.running, c.started, c.termCb)) =
    some (true, true, false) := by decide

end ErgoVerif.Props.C17StartRace
