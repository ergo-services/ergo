import ErgoVerif.Model.AppDeps
/-!
# C17 — dependencies are started first

Theorems about `Model/AppDeps.lean` (the recursion of node.ApplicationStart over `Depends.Applications`).
-/
namespace ErgoVerif.Props.C17Deps
open ErgoVerif.AppDeps

/-- what one call may do to the state: nothing stops, the callback log only grows -/
def Grows (st st' : St) : Prop := st.running ⊆ st'.running ∧ st.order <+: st'.order

theorem Grows.refl (st : St) : Grows st st := ⟨List.Subset.refl _, List.prefix_refl _⟩
theorem Grows.trans {a b c : St} (h1 : Grows a b) (h2 : Grows b c) : Grows a c :=
  ⟨h1.1.trans h2.1, h1.2.trans h2.2⟩

/-- the loop over the dependencies, for any `f` that behaves as the recursive call does -/
theorem startDeps_spec (f : St → Nat → St × Res)
    (hf : ∀ st a, Grows st (f st a).1 ∧ (((f st a).2 = .ok ∨ (f st a).2 = .running) → a ∈ (f st a).1.running))
    (ds : List Nat) (st : St) :
    Grows st (startDeps f st ds).1 ∧ ((startDeps f st ds).2 = true → ∀ d ∈ ds, d ∈ (startDeps f st ds).1.running) := by
  fun_induction startDeps f st ds
  · exact ⟨Grows.refl _, by intro _ d hd; cases hd⟩
  · next st d ds _ hok ih =>
    obtain ⟨hg, hin⟩ := hf st d
    refine ⟨hg.trans ih.1, fun hres x hx => ?_⟩
    rcases List.mem_cons.mp hx with rfl | hx'
    · exact ih.1.1 (hin hok)
    · exact ih.2 hres x hx'
  · next st d _ _ _ => exact ⟨(hf st d).1, nofun⟩

theorem startOwn_spec (sp : Spec) (st : St) (a : Nat) : let r := startOwn sp st a
    Grows st r.1 ∧ ((r.2 = .ok ∨ r.2 = .running) → a ∈ r.1.running) ∧
    (r.2 = .ok → a ∉ st.running ∧ r.1.order = st.order ++ [a]) ∧ (r.2 ≠ .ok → r.1 = st) := by
  fun_cases startOwn sp st a
  · next h => exact ⟨Grows.refl st, fun _ => h, nofun, fun _ => rfl⟩
  · exact ⟨Grows.refl st, nofun, nofun, fun _ => rfl⟩
  · next hn _ =>
    exact ⟨⟨List.subset_cons_self .., List.prefix_append ..⟩, fun _ => by simp, fun _ => ⟨hn, rfl⟩, fun h => absurd rfl h⟩

/-- an application that is not loaded is refused and nothing happens -/
theorem C17_deps_unknown (sp : Spec) (n : Nat) (st : St) (a : Nat) (h : sp.isLoaded a = false) :
    start sp (n + 1) st a = (st, .unknown) := by
  simp [start, h]

theorem start_succ (sp : Spec) (n : Nat) (st : St) (a : Nat) (h : sp.isLoaded a = true) :
    start sp (n + 1) st a =
      if (startDeps (start sp n) st (sp.depsOf a)).2 then startOwn sp (startDeps (start sp n) st (sp.depsOf a)).1 a
      else ((startDeps (start sp n) st (sp.depsOf a)).1, .depends) := by
  simp [start, h]

theorem start_spec (sp : Spec) : ∀ (fuel : Nat) (st : St) (a : Nat), let r := start sp fuel st a
    Grows st r.1 ∧ ((r.2 = .ok ∨ r.2 = .running) → a ∈ r.1.running ∧ ∀ d ∈ sp.depsOf a, d ∈ r.1.running) ∧
    (r.2 = .ok → a ∉ st.running ∧ ∃ mid, r.1.order = st.order ++ mid ++ [a]) := by
  intro fuel
  induction fuel with
  | zero => intro st a; exact ⟨Grows.refl st, nofun, nofun⟩
  | succ n ih =>
    intro st a
    cases hl : sp.isLoaded a
    · rw [C17_deps_unknown sp n st a hl]
      exact ⟨Grows.refl st, nofun, nofun⟩
    · rw [start_succ sp n st a hl]
      obtain ⟨hg, hall⟩ := startDeps_spec (start sp n)
        (fun st a => ⟨(ih st a).1, fun h => ((ih st a).2.1 h).1⟩) (sp.depsOf a) st
      split
      · rename_i hd
        obtain ⟨hg2, hin, hok, _⟩ := startOwn_spec sp (startDeps (start sp n) st (sp.depsOf a)).1 a
        refine ⟨hg.trans hg2, fun h => ⟨hin h, fun d hd' => hg2.1 (hall hd d hd')⟩, fun h => ?_⟩
        obtain ⟨hn, ho⟩ := hok h
        obtain ⟨mid, hmid⟩ := hg.2
        exact ⟨fun h' => hn (hg.1 h'), mid, by rw [ho, hmid]⟩
      · exact ⟨hg, nofun, nofun⟩

/-- **Dependencies first.** Whenever ApplicationStart reports success (or "already running"), every application the
started one depends on is running, it is running itself, nothing that was running has stopped — for every
dependency graph, every set of applications running before and every set of failing ones. -/
theorem C17_deps_running (sp : Spec) (fuel : Nat) (st : St) (a : Nat) :
    let r := start sp fuel st a
    (r.2 = .ok ∨ r.2 = .running) →
    a ∈ r.1.running ∧ (∀ d ∈ sp.depsOf a, d ∈ r.1.running) ∧ (∀ x ∈ st.running, x ∈ r.1.running) :=
  fun hr => have h := start_spec sp fuel st a; ⟨(h.2.1 hr).1, (h.2.1 hr).2, fun _ hx => h.1.1 hx⟩

/-- **Order of the Start callbacks.** On success the application's own Start callback is the last one of the call:
every dependency started by this call had its callback before. -/
theorem C17_deps_order (sp : Spec) (fuel : Nat) (st : St) (a : Nat) :
    let r := start sp fuel st a
    r.2 = .ok → ∃ mid, r.1.order = st.order ++ mid ++ [a] ∧ a ∉ st.running :=
  fun hr => let ⟨hn, mid, e⟩ := (start_spec sp fuel st a).2.2 hr; ⟨mid, e, hn⟩

/-- **A failed start does not start the application**: when the call reports anything but success (unknown or failing
dependency, its own start failing, already running), the application's own start changed nothing — the state is
exactly what the loop over the dependencies left, and its Start callback did not run after that loop. -/
theorem C17_deps_failure (sp : Spec) (n : Nat) (st : St) (a : Nat) :
    let r := start sp (n + 1) st a
    r.2 ≠ .ok → sp.isLoaded a = true → r.1 = (startDeps (start sp n) st (sp.depsOf a)).1 := by
  intro r hr hl
  simp only [r, start_succ sp n st a hl] at hr ⊢
  split
  · rename_i hd
    rw [if_pos hd] at hr
    exact (startOwn_spec sp _ a).2.2.2 hr
  · rfl

/-- non-vacuity: the diamond `web → [db, cache]`, `cache → [db]`, db already running: one call starts cache, then web -/
example :
    let sp : Spec := { loaded := [true, true, true], deps := [[], [0], [0, 1]], fails := [false, false, false] }
    let r := start sp 4 { running := [0], order := [0] } 2
    r.2 = .ok ∧ r.1.order = [0, 1, 2] ∧ r.1.running = [2, 1, 0] := by decide

/-- a failing dependency aborts with `depends` and the application's own Start never runs -/
example :
    let sp : Spec := { loaded := [true, true, true], deps := [[], [0], [0, 1]], fails := [false, true, false] }
    let r := start sp 4 { running := [], order := [] } 2
    r.2 = .depends ∧ r.1.order = [0] := by decide

end ErgoVerif.Props.C17Deps
