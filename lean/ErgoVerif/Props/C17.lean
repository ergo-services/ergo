import ErgoVerif.ListFacts
import ErgoVerif.Generated.App
import ErgoVerif.Lemmas.App
/-!
# C17 — application lifecycle and start modes

`Model/App.lean` mirrors node/application.go at call granularity. `rr` (= `Gen.App.startResetsReason`,
regenerated from the source) says whether `start` clears the reason left by the previous run.
-/
namespace ErgoVerif.Props.C17
open ErgoVerif.App

abbrev rr : Bool := Gen.App.startResetsReason

/-- clause 3 (no Terminate entry yet for a run that is still on) is what makes the entry `finish` adds a new one;
clause 6 gives that entry its `1 ≤ run` -/
def Inv (a : App) : Prop :=
  (a.state = .loaded → a.group = []) ∧
  (∀ e ∈ a.termCbs, 1 ≤ e.1 ∧ e.1 ≤ a.run) ∧
  (a.state ≠ .loaded → ∀ e ∈ a.termCbs, e.1 < a.run) ∧
  (a.termCbs.map (·.1)).Nodup ∧
  a.startCbs = (List.range a.run).map (· + 1) ∧
  (a.state ≠ .loaded → a.run ≥ 1)

/-- apart from clause 1 the invariant speaks of the callbacks, the run number and whether the state is `loaded` -/
theorem Inv.transfer {a b : App} (h : Inv a) (hl : a.state = .loaded → b.state = .loaded)
    (hg : b.state = .loaded → b.group = [])
    (ht : b.termCbs = a.termCbs) (hr : b.run = a.run) (hs : b.startCbs = a.startCbs) : Inv b := by
  obtain ⟨_, h2, h3, h4, h5, h6⟩ := h
  unfold Inv
  rw [ht, hr, hs]
  exact ⟨hg, h2, fun hb => h3 (mt hl hb), h4, h5, fun hb => h6 (mt hl hb)⟩

theorem finish_inv {a : App} (h : Inv a) (hnl : a.state ≠ .loaded) : Inv (finish a) := by
  by_cases hg : a.group = []
  · obtain ⟨_, h2, h3, h4, h5, h6⟩ := h
    rw [finish_of_nil hg hnl]
    refine ⟨fun _ => hg, ?_, fun hc => absurd rfl hc, ?_, h5, fun hc => absurd rfl hc⟩
    · intro e he
      simp only [List.mem_append, List.mem_singleton] at he
      rcases he with he | rfl
      · exact h2 e he
      · exact ⟨h6 hnl, Nat.le_refl _⟩
    · -- the new entry is for the current run, the earlier ones for earlier runs
      rw [List.map_append, List.map_singleton, nodup_snoc]
      refine ⟨fun hx => ?_, h4⟩
      obtain ⟨e, he, heq⟩ := List.mem_map.mp hx
      exact Nat.ne_of_lt (h3 hnl e he) heq
  · rw [finish_of_ne_nil hg]
    exact h

theorem step_inv (b : Bool) (a : App) (o : Op) (h : Inv a) : Inv (step b a o).1 := by
  have hst (mode n) : Inv (started b a mode n) := by
    obtain ⟨_, h2, _, h4, h5, _⟩ := h
    refine ⟨by simp [started], ?_, ?_, h4, ?_, by simp [started]⟩
    · intro e he; have := h2 e he; simp only [started]; omega
    · intro _ e he; have := h2 e he; simp only [started]; omega
    · simp only [started]; rw [h5, List.range_succ]; simp
  -- the branches of `step`: start (refused, running; refused, stopping; a member fails to spawn; `failAt` past the last
  -- member; no failure), memberExit, stop (loaded; stopping, forced; stopping, not forced; running)
  fun_cases step b a o
  · exact h
  · exact h
  · exact h.transfer (fun _ => rfl) (fun _ => rfl) rfl rfl rfl
  · exact hst ..
  · exact hst ..
  · next i r =>
    show Inv (terminate a i r)
    by_cases hin : i ∈ a.group
    · have hnl : a.state ≠ .loaded := fun hl => by rw [h.1 hl] at hin; cases hin
      obtain ⟨_, _, _, e, est⟩ := afterRule_eq { a with group := a.group.erase i } r
      rw [terminate_of_mem r hin, e]
      exact finish_inv (h.transfer (absurd · hnl) (absurd · (est hnl)) rfl rfl rfl) (est hnl)
    · rw [terminate_of_not_mem r hin]; exact h
  · exact h
  · next hs => exact h.transfer (by simp [hs]) (by simp [hs]) rfl rfl rfl
  · exact h
  · next hs => exact h.transfer (by simp [hs]) (by simp) rfl rfl rfl

theorem reach_inv (b : Bool) (ops : List Op) : Inv (runOps b App.init ops) :=
  runOps_inv (step_inv b) ops (by simp [Inv, App.init])

/-- **Callbacks once per run.** For every history of starts, member terminations and stop requests: Start is invoked
exactly once per successful start (run k ↔ k-th Start), Terminate at most once per run, never for a run that was not
started, and never while the application is still running or stopping. -/
theorem C17_callbacks_once (ops : List Op) :
    let a := runOps rr App.init ops
    (a.termCbs.map (·.1)).Nodup ∧ (∀ e ∈ a.termCbs, 1 ≤ e.1 ∧ e.1 ≤ a.run) ∧
    a.startCbs = (List.range a.run).map (· + 1) ∧
    (a.state ≠ .loaded → ∀ e ∈ a.termCbs, e.1 < a.run) := by
  obtain ⟨_, h2, h3, h4, h5, _⟩ := reach_inv rr ops
  exact ⟨h4, h2, h5, h3⟩

/-- **Stopped means everything is down**: the state is back to `loaded` (the only state in which a stop request
reports success) only in configurations with no live member. -/
theorem C17_loaded_no_members (ops : List Op) :
    let a := runOps rr App.init ops
    a.state = .loaded → a.group = [] :=
  fun h => (reach_inv rr ops).1 h

theorem C17_stop_success (ops : List Op) (force : Bool) :
    let a := runOps rr App.init ops
    (step rr a (.stop force)).2 = .ok → a.state = .loaded ∧ a.group = [] := by
  intro a h
  simp only [step] at h
  cases hs : a.state with
  | loaded => exact ⟨rfl, C17_loaded_no_members ops hs⟩
  | running => simp [hs] at h
  | stopping => simp [hs] at h; split at h <;> simp at h

/-- **The mode rule.** A member termination in a running application starts the stop exactly under the mode's rule:
Permanent — always; Transient — iff the reason is abnormal; Temporary — never (it only ends when the last member is
gone). When it starts the stop, every remaining member is sent a shutdown and the cause is recorded. -/
theorem C17_mode_rule (a : App) (i : Nat) (r : Reason) (hrun : a.state = .running) (hin : i ∈ a.group)
    (hmore : a.group.erase i ≠ []) :
    let a' := terminate a i r
    let rule := modeRule a.mode r
    (rule = true → a'.state = .stopping ∧ a'.reason = some r ∧ a'.exitsSent = a.exitsSent ++ a.group.erase i) ∧
    (rule = false → a'.state = .running ∧ a'.reason = a.reason ∧ a'.exitsSent = a.exitsSent) ∧
    a'.group = a.group.erase i ∧ a'.termCbs = a.termCbs := by
  intro a' rule
  cases hm : modeRule a.mode r
  · have e : a' = _ := terminate_inert hin (Or.inl hm)
    rw [e, finish_of_ne_nil hmore]
    simp [rule, hm, hrun]
  · have e : a' = _ := terminate_fire hin hm (by simp [hrun])
    rw [e, finish_of_ne_nil hmore]
    simp [rule, hm]

/-- **Last member gone.** When the last member terminates the application returns to `loaded` and Terminate is
invoked with the recorded cause, or `normal` when there is none. -/
theorem C17_last_member (a : App) (i : Nat) (r : Reason) (hnl : a.state ≠ .loaded) (hg : a.group = [i]) :
    let a' := terminate a i r
    a'.state = .loaded ∧ a'.group = [] ∧ ∃ rsn, a'.termCbs = a.termCbs ++ [(a.run, rsn)] := by
  intro a'
  have e : a' = _ := terminate_of_mem r (by simp [hg])
  obtain ⟨_, _, _, e', es⟩ := afterRule_eq { a with group := a.group.erase i } r
  have hgn : a.group.erase i = [] := by simp [hg]
  rw [e, e', finish_of_nil hgn (es hnl)]
  exact ⟨rfl, hgn, _, rfl⟩

/-- a failed start leaves nothing behind: state `loaded`, no member, no Start callback -/
theorem C17_failed_start (a : App) (mode : Mode) (n k : Nat) (hl : a.state = .loaded) (hk : k < n) :
    let r := step rr a (.start mode n (some k))
    r.2 = .errSpawn ∧ r.1.state = .loaded ∧ r.1.group = [] ∧ r.1.startCbs = a.startCbs ∧ r.1.termCbs = a.termCbs := by
  simp [step, hl, hk]

/-- the full statement about the reason: a Temporary application whose members all end normally is terminated
with reason `normal`, whatever happened in earlier runs (`n ≥ 1`: started without members, an application has no
member exit to end it and no Terminate) -/
def C17_reason_full (b : Bool) : Prop :=
  ∀ (ops : List Op) (n : Nat),
    let a := runOps b App.init ops
    a.state = .loaded → n ≥ 1 →
    let a' := runOps b (step b a (.start .temporary n none)).1 ((List.range n).map fun i => Op.memberExit i .normal)
    a'.termCbs.getLast? = some (a.run + 1, .normal)

/-- **Reason of a run.** With the reset in `start` (the code as it is now): a Temporary application whose members
all end normally is terminated with `normal`, whatever earlier runs ended with. -/
theorem C17_reason : C17_reason_full rr := by
  have hrr : rr = true := by decide
  rw [hrr]
  intro ops n a hl hn a'
  have hst : (step true a (.start .temporary n none)).1 = started true a .temporary n := by
    simp [step, hl]
  have := all_exit true (fun _ => .normal) (List.range n) (started true a .temporary n)
    (by simp; omega) rfl (by simp [started]) (Or.inl rfl)
  show (runOps true (step true a (.start .temporary n none)).1 _).termCbs.getLast? = _
  rw [hst, this]
  simp [started]

/-- without the reset in `start` the previous run's reason is handed to the next run's Terminate (defect D6) -/
theorem C17_D6_before_fix : ¬ C17_reason_full false := by
  intro h
  have := h [.start .transient 1 none, .memberExit 0 (.crash 7)] 1 rfl (by decide)
  revert this; decide

/-- non-vacuity: permanent application, second member crashes, the first is shut down, Terminate(crash) once -/
example : (runOps true App.init [.start .permanent 2 none, .memberExit 1 (.crash 3), .memberExit 0 .shutdown]).termCbs
    = [(1, .crash 3)] := by decide

end ErgoVerif.Props.C17
