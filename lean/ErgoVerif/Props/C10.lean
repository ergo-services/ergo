import ErgoVerif.Model.Tree
/-!
# C10 — no orphans

`Model/Tree.lean`: ownership by LinkParent links; a terminating process sends an exit signal to every process
linked to it as parent, and an exit from the parent terminates the child whether it traps exits or not.
-/
namespace ErgoVerif.Props.C10
open ErgoVerif.Tree

/-- invariant: parents are older than their children, and every live process whose linked parent is dead has that
parent's exit signal pending -/
def Inv (c : Cfg) : Prop :=
  ∀ i (p : Proc), c[i]? = some p →
    (∀ q, p.parent = some q → q < i) ∧
    (p.alive = true → ∀ q, p.parent = some q → isAlive c q = true ∨ p.pendingExit = true)

theorem inv_init : Inv [] := by intro i p h; simp at h

theorem getElem?_kill (c : Cfg) (k i : Nat) :
    (kill c k)[i]? = (c[i]?).map fun p =>
      if i = k then { p with alive := false, pendingExit := false }
      else if p.parent = some k ∧ p.alive then { p with pendingExit := true } else p := by
  simp only [kill, List.getElem?_map, List.getElem?_zipIdx]
  cases c[i]? <;> simp

theorem isAlive_kill (c : Cfg) (k q : Nat) : isAlive (kill c k) q = (isAlive c q && decide (q ≠ k)) := by
  simp only [isAlive, getElem?_kill]
  cases hq : c[q]? with
  | none => simp
  | some p =>
    simp only [Option.map_some]
    by_cases hk : q = k
    · simp [hk]
    · simp only [hk, if_false]
      split <;> simp [hk]

theorem kill_inv (c : Cfg) (k : Nat) (h : Inv c) : Inv (kill c k) := by
  intro i p hp
  rw [getElem?_kill] at hp
  obtain ⟨p0, hc, rfl⟩ := Option.map_eq_some_iff.mp hp
  obtain ⟨hord, hlive⟩ := h i p0 hc
  split
  · exact ⟨hord, by simp⟩
  · split
    · exact ⟨hord, fun _ q _ => Or.inr rfl⟩
    · next hpk =>
      refine ⟨hord, fun ha q hq => (hlive ha q hq).imp (fun hal => ?_) id⟩
      -- the parent is not the one killed: `p0` is alive and not among the children of `k`
      rw [isAlive_kill, hal]
      simp
      exact fun hqk => hpk ⟨hqk ▸ hq, ha⟩

theorem isAlive_lt {c : Cfg} {q : Nat} (h : isAlive c q = true) : q < c.length := by
  unfold isAlive at h
  cases hq : c[q]? with
  | none => simp [hq] at h
  | some p => exact (List.getElem?_eq_some_iff.mp hq).1

theorem isAlive_append {c : Cfg} (x : Proc) {q : Nat} (h : isAlive c q = true) : isAlive (c ++ [x]) q = true := by
  simpa [isAlive, List.getElem?_append_left (isAlive_lt h)] using h

theorem append_inv (c : Cfg) (x : Proc) (h : Inv c) (hx : ∀ q, x.parent = some q → isAlive c q = true) :
    Inv (c ++ [x]) := by
  intro i p hp
  rw [List.getElem?_append] at hp
  split at hp
  · obtain ⟨hord, hlive⟩ := h i p hp
    exact ⟨hord, fun ha q hq => (hlive ha q hq).imp (isAlive_append x) id⟩
  · -- the new process sits at `c.length`; its parent is alive, hence older
    obtain ⟨hie, rfl⟩ : i - c.length = 0 ∧ x = p := by simpa [List.getElem?_singleton] using hp
    exact ⟨fun q hq => by have := isAlive_lt (hx q hq); omega, fun _ q hq => .inl (isAlive_append x (hx q hq))⟩

theorem step_inv (c : Cfg) (l : Lbl) (c' : Cfg) (h : Inv c) (hs : step c l = some c') : Inv c' := by
  revert hs
  fun_cases step c l <;> intro hs <;> cases hs
  · exact append_inv c _ h (by simp)
  · exact append_inv c _ h (by simpa)
  · exact kill_inv c _ h
  · exact kill_inv c _ h

theorem reach_inv {c : Cfg} (h : Reach c) : Inv c := by
  obtain ⟨ls, hr⟩ := h
  exact run_inv (Inv := Inv) step_inv inv_init hr

/-- `a` is an ancestor of `i` along LinkParent links -/
inductive Ancestor (c : Cfg) : Nat → Nat → Prop
  | parent {i a : Nat} {p : Proc} : c[i]? = some p → p.parent = some a → Ancestor c a i
  | step {i a b : Nat} {p : Proc} : c[i]? = some p → p.parent = some b → Ancestor c a b → Ancestor c a i

/-- by `Inv` the parent is alive or its exit is pending, and a quiescent configuration has no pending exit -/
theorem parent_alive {c : Cfg} (hinv : Inv c) (hq : quiescent c) {i q : Nat} {p : Proc} (hp : c[i]? = some p)
    (hi : isAlive c i = true) (hpar : p.parent = some q) : isAlive c q = true := by
  have hal : p.alive = true := by simpa [isAlive, hp] using hi
  rcases (hinv i p hp).2 hal q hpar with h1 | h2
  · exact h1
  · rw [hq p (List.mem_of_getElem? hp) hal] at h2; cases h2

theorem no_orphans_of_inv (c : Cfg) (hinv : Inv c) (hq : quiescent c) (i a : Nat)
    (hi : isAlive c i = true) (ha : Ancestor c a i) : isAlive c a = true := by
  induction ha with
  | parent hp hpar => exact parent_alive hinv hq hp hi hpar
  | step hp hpar _ ih => exact ih (parent_alive hinv hq hp hi hpar)

/-- **No orphans.** In every reachable configuration in which no exit signal from a parent is left unhandled,
every live process has all its owners alive: nothing that a (terminated) supervisor, pool or parent started is
still running — for every tree shape and every sequence of kills, crashes, exits and restarts at any moment. -/
theorem C10_no_orphans (c : Cfg) (h : Reach c) (hq : quiescent c) (i a : Nat)
    (hi : isAlive c i = true) (ha : Ancestor c a i) : isAlive c a = true :=
  no_orphans_of_inv c (reach_inv h) hq i a hi ha

/-- the signal is never lost on the way: a live process with a dead parent always has the exit pending -/
theorem C10_exit_pending (c : Cfg) (h : Reach c) (i q : Nat) (p : Proc) (hp : c[i]? = some p)
    (hal : p.alive = true) (hpar : p.parent = some q) (hdead : isAlive c q = false) : p.pendingExit = true := by
  rcases (reach_inv h i p hp).2 hal q hpar with h1 | h2
  · rw [hdead] at h1; cases h1
  · exact h2

/-- non-vacuity: a three-level tree, the middle supervisor is killed, the grandchild follows -/
example : ∃ c, Reach c ∧ quiescent c ∧ isAlive c 0 = true ∧ isAlive c 1 = false ∧ isAlive c 2 = false :=
  ⟨_, ⟨[.spawnRoot, .spawnChild 0, .spawnChild 1, .die 1, .handleExit 2], rfl⟩, by decide, by decide, by decide, by decide⟩

end ErgoVerif.Props.C10
