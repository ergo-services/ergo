import ErgoVerif.Lemmas.Window
/-!
# C09 — restart intensity limit

`Window.check` mirrors `supCheckRestartIntensity`; `runImpl` folds it over a
supervisor's whole failure history (the lazily pruned list is the state),
`runSpec` is the rule of the property: give up at a failure iff more than
`intensity` failures, this one included, happened within the last period.
-/
namespace ErgoVerif.Props.C09
open ErgoVerif.Window

/-- For every period ≥ 0, every intensity and every monotone failure history the
implementation's verdicts are exactly the rule's verdicts: it gives up exactly at the
(Intensity+1)-th failure within the period, older failures do not count
(although they are pruned lazily), and at or below the limit it does not give up. -/
theorem C09_window (period : Int) (hp : 0 ≤ period) (k : Nat) (ts : List Int) (hs : Sorted ts) :
    (runImpl period k [] ts).2 = runSpec period k [] ts := by
  cases ts with
  | nil => simp [runImpl, runSpec]
  | cons t ts' =>
    exact runImpl_eq_runSpec k (t :: ts') [] [] t ⟨[], by simp, by simp, trivial, by simp⟩ ⟨Int.le_refl _, hs⟩

/-- one step, stated on the retained list: the verdict is the window count -/
theorem C09_step (st : List Int) (now period : Int) (k : Nat)
    (hs : Sorted (st ++ [now])) (hn : ∀ x ∈ st, x ≤ now) :
    (check st now period k).2 = decide (inWindow (st ++ [now]) now period > k) :=
  check_spec st now period k hs hn

/-- at or below the limit: never exceeded -/
theorem C09_below_limit (period : Int) (hp : 0 ≤ period) (k : Nat) (pre st : List Int) (last t : Int)
    (hr : Rel period pre st last) (ht : last ≤ t) (hle : inWindow (pre ++ [t]) t period ≤ k) :
    (check st t period k).2 = false := by
  rw [(rel_step k hr ht).2]; simp; omega

/-- non-vacuity: a concrete history (intensity 2, period 5 s): three failures within 5 s exceed,
    a failure 6 s after the first two does not. -/
example : (runImpl 5000 2 [] [0, 1000, 2000]).2 = [false, false, true] := by decide
example : (runImpl 5000 2 [] [0, 1000, 6001, 6500, 6600]).2 = [false, false, false, false, true] := by decide
example : (runImpl 5000 2 [] [0, 1000, 6001]).2 = [false, false, false] := by decide
example : Sorted [0, 1000, 6001, 6500] := by simp [Sorted]

end ErgoVerif.Props.C09
