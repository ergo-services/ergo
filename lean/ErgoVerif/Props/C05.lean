import ErgoVerif.Lemmas.Proc
import ErgoVerif.Generated.States
/-!
# C05 — termination happens once, with the right reason, and is final (process part)

Same model as C01 (`Model/Proc.lean`). `terms` counts entries into ProcessTerminate, `why` is the
reason class handed to it, `sawErr/sawPanic/sawKill` record the causes that occurred.
-/
namespace ErgoVerif.Props.C05
open ErgoVerif.Proc

-- unfolds to `true`, which is why `reach_invAll` (stated for `step true`) accepts `Reach kz c`; see `C01.kz`
abbrev kz : Bool := Gen.States.killZombeeReturns

/-- ProcessTerminate is entered at most once, in every reachable configuration. -/
theorem C05_once (c : Cfg) (h : Reach kz c) : c.terms ≤ 1 ∧ c.tm ≤ c.terms := by
  have hi := (reach_invAll h).inv
  have := hi.token
  unfold Cfg.fin at this
  exact ⟨by omega, hi.tm_le⟩

/-- When a finaliser has been elected (or ProcessTerminate has started) no other callback is executing and no
thread holds the right to start one: the terminate callback runs after the last other callback. -/
theorem C05_after_last_callback (c : Cfg) (h : Reach kz c) (hf : c.fE + c.fP + c.fK + c.terms ≥ 1) :
    c.i0 = 0 ∧ c.rb = 0 ∧ c.w1 + c.r0 + c.r3 + c.re + c.rp + c.rk + c.k2 = 0 := by
  have := (reach_invAll h).inv.token
  unfold Cfg.RO Cfg.fin at this
  omega

/-- **Final.** Once ProcessTerminate has been entered, no continuation whatsoever — further senders, killers,
wake-up attempts — makes any callback of the process run again or ProcessTerminate run a second time. -/
theorem C05_final (c : Cfg) (h : Reach kz c) (ht : c.terms = 1) (ls : List Lbl) (c' : Cfg)
    (hr : run (step kz) c ls = some c') : c'.rb = 0 ∧ c'.i0 = 0 ∧ c'.r0 = 0 ∧ c'.w1 = 0 ∧ c'.terms = 1 := by
  have := elected_final h (by unfold Cfg.fin; omega) hr
  unfold Cfg.RO Cfg.fin at this
  omega

/-- **Exactly once.** In every quiescent configuration whose state word is `terminated`, ProcessTerminate has run
exactly once and has finished; and a quiescent configuration is never left in `zombee`, `running` or `wait`. -/
theorem C05_exactly_once (c : Cfg) (h : Reach kz c) (hq : c.quiescent) :
    (c.st = .terminated → c.terms = 1 ∧ c.tm = 0) ∧ c.st ≠ .zombee ∧ c.st ≠ .running ∧ c.st ≠ .wait := by
  -- what `TokAt` says at each of these four words names a place that quiescence says is empty
  have := (reach_invAll h).inv.tok.2.2.2
  unfold Cfg.quiescent at hq
  simp only [Cfg.RO, Cfg.fin, hq] at this
  refine ⟨fun hs => ?_, fun hs => ?_, fun hs => ?_, fun hs => ?_⟩ <;> simp only [hs, TokAt] at this <;> omega

/-- **Reason reflects a cause.** The reason class handed to ProcessTerminate names a cause that occurred:
`kill` only if some Kill swapped the word, the handler's error only if a handler returned one, `panic` only if
a handler panicked. Hence with a single cause the reason is that cause. -/
theorem C05_reason (c : Cfg) (h : Reach kz c) :
    (c.why = some .kill → c.sawKill = true) ∧ (c.why = some .err → c.sawErr = true) ∧
    (c.why = some .panic → c.sawPanic = true) :=
  have hr := (reach_invAll h).reason
  ⟨fun hw => hr.1 (.inr (.inr (.inr (.inr (.inr hw))))), fun hw => hr.2.1 (.inr (.inr hw)),
    fun hw => hr.2.2 (.inr (.inr hw))⟩

/-- The code before the repair of D7: ProcessTerminate can be entered twice (two killers on a process that was
killed while sleeping / already terminated but still registered). -/
theorem C05_D7_before_fix : ∃ ls c, run (step false) init ls = some c ∧ c.terms = 2 :=
  ⟨[.initOk, .storeSleep, .runCas, .runGo, .start, .retErr, .swapErr, .newKiller, .newKiller,
     .kSwapZ, .kSwapZ, .kSwapT, .termEnterE, .termEnterK], _, rfl, by decide⟩

/-- non-vacuity: a reachable terminated, quiescent configuration, reason kill -/
example : ∃ c, Reach true c ∧ c.quiescent ∧ c.st = .terminated ∧ c.terms = 1 ∧ c.why = some .kill :=
  ⟨_, ⟨[.initOk, .storeSleep, .runCas, .runGo, .start, .retNil, .casSleep, .recheckEmpty,
        .newKiller, .kSwapZ, .kSwapT, .termEnterK, .termDone], rfl⟩, by decide⟩

end ErgoVerif.Props.C05
