/-
C20 — Cron: jobs run exactly at the minutes their spec denotes.

Models: ErgoVerif.Model.Cron (node/cron_parse.go: parser, mask compiler, IsRunAt, denotation),
        ErgoVerif.Model.CronSched (node/cron.go: cron object, timer function, Schedule/JobSchedule).
The models follow the code after the `fix:` commits for D8, D9, D17 and the two timer-function repairs.
-/
import ErgoVerif.Lemmas.CronReach
import ErgoVerif.Lemmas.CronWindow
import ErgoVerif.Lemmas.CronPrint
namespace ErgoVerif.Props.C20
open ErgoVerif.Cron ErgoVerif.CronSched ErgoVerif.Generated.Cron

/-- For every valid spec and every well-formed civil time the code's matcher on the compiled bit masks
    (cronSpecMask.IsRunAt ∘ cronParseSpecField) equals the crontab denotation: lists, ranges, steps, `L`, `wL`, `w#n`,
    and day-of-month OR day-of-week when both are restricted. -/
theorem C20_mask_eq (s : Spec) (hs : s.valid = true) (c : Civil) (hc : c.wf) :
    specIsRunAt (compileSpec s) c = s.denote c :=
  specIsRunAt_eq_denote s hs c hc

-- non-vacuity: a valid spec with every kind of option, a well-formed time, both outcomes
example : (⟨.list [.starStep 15, .num 59], .list [.rangeStep 0 23 2], .list [.num 1, .last], .star,
           .list [.nth 1 2, .lastW 7, .range 2 3]⟩ : Spec).valid = true := by decide
example : (⟨2026, 3, 31, 22, 45, 2⟩ : Civil).wf := by decide
example : specIsRunAt (compileSpec ⟨.list [.starStep 15], .star, .list [.last], .star, .list [.lastW 7]⟩) ⟨2026, 3, 31, 22, 45, 2⟩ = true := by decide
example : specIsRunAt (compileSpec ⟨.list [.starStep 15], .star, .list [.last], .star, .list [.lastW 7]⟩) ⟨2026, 3, 30, 22, 45, 1⟩ = false := by decide

/-- the compiled masks of a valid spec all carry a type cronMask.IsRunAt knows (its panicking `default:` is
    unreachable) and fit in 64 bits (the model's `Nat` bit operations are the code's uint64 operations) -/
theorem C20_masks_wellformed (s : Spec) (hs : s.valid = true) (m : Nat)
    (hm : m ∈ (compileSpec s).minHourMonth ∨ m ∈ (compileSpec s).day ∨ m ∈ (compileSpec s).weekDay) :
    maskKnown m = true ∧ m < 2 ^ 64 := by
  obtain ⟨h1, h2, h3, h4, h5⟩ := Spec.valid_iff.mp hs
  simp only [compileSpec, List.mem_append] at hm
  -- the month masks sit in `minHourMonth`, before the day masks: hence `h4` before `h3`
  rcases hm with ((hm | hm) | hm) | hm | hm
  · exact compileField_wellformed _ _ h1 m hm
  · exact compileField_wellformed _ _ h2 m hm
  · exact compileField_wellformed _ _ h4 m hm
  · exact compileField_wellformed _ _ h3 m hm
  · exact compileField_wellformed _ _ h5 m hm

/-- parse ∘ print = id: every AST of the grammar, printed canonically, is accepted and yields the same AST -/
theorem C20_parse_print (s : Spec) (hs : s.valid = true) : parseSpec s.print = some s :=
  parseSpec_print s hs

/-- the ASTs the parser can produce are exactly the ASTs of the grammar -/
theorem C20_parse_grammar (s : Spec) : (∃ cs, parseSpec cs = some s) ↔ s.valid = true :=
  ⟨fun ⟨_, h⟩ => parseSpec_valid h, fun h => ⟨s.print, parseSpec_print s h⟩⟩

example : (⟨.list [.starStep 15, .num 59], .list [.rangeStep 0 23 2], .list [.num 1, .last], .star,
           .list [.nth 1 2, .lastW 7, .range 2 3]⟩ : Spec).print = "*/15,59 0-23/2 1,L * 1#2,7L,2-3".toList := by decide

/-- cronParseSpec accepts only texts that denote an AST of the grammar: values inside the field bounds, ascending
    ranges, steps 1..max, `L` only in the day field, `wL`/`w#n` only in the weekday field, no empty list, five fields -/
theorem C20_parse_sound (cs : List Char) (s : Spec) (h : parseSpec cs = some s) : s.valid = true :=
  parseSpec_valid h

/-- The parser accepts exactly the grammar, at the level of the text: `SpecText cs s` says that cs (after macro
    expansion) consists of five white-space separated fields, each `*` or a comma-separated list of option texts —
    decimal numerals (leading zeros allowed) `d`, `d-d`, `d-d/d`, `*/d`, `L`, `wL`, `w#n` — whose values form the valid
    AST s. Every other text is rejected. -/
theorem C20_parse (cs : List Char) (s : Spec) : parseSpec cs = some s ↔ SpecText cs s :=
  parseSpec_iff cs s

theorem C20_parse_rejects (cs : List Char) : parseSpec cs = none ↔ ¬ ∃ s, SpecText cs s := by
  rw [Option.eq_none_iff_forall_ne_some, not_exists]
  exact forall_congr' fun s => not_congr (C20_parse cs s)

-- non-canonical text of the grammar (leading zeros, tabs, several blanks) and the AST it denotes
example : parseSpec " 007  *\t*/02 1-3 7L,01 ".toList =
    some ⟨.list [.num 7], .star, .list [.starStep 2], .list [.range 1 3], .list [.lastW 7, .num 1]⟩ := by decide

/-- the anchors the parser model was written against are the ones in the working tree -/
theorem C20_anchor_fields : fieldCount = 5 ∧
    (cronFieldMin.min, cronFieldMin.max) = (0, 59) ∧ (cronFieldHour.min, cronFieldHour.max) = (0, 23) ∧
    (cronFieldDay.min, cronFieldDay.max) = (1, 31) ∧ (cronFieldMonth.min, cronFieldMonth.max) = (1, 12) ∧
    (cronFieldWeekDay.min, cronFieldWeekDay.max) = (1, 7) := by decide

theorem C20_anchor_regexps :
    cronFieldMin.reg = "^(?:\\*$|\\*/\\d+|\\d+-\\d+|\\d+-\\d+/\\d+|\\d+)$" ∧
    cronFieldHour.reg = "^(?:\\*$|\\*/\\d+|\\d+-\\d+|\\d+-\\d+/\\d+|\\d+)$" ∧
    cronFieldDay.reg = "^(?:\\*$|\\*/\\d+|\\d+-\\d+|\\d+-\\d+/\\d+|L|\\d+)$" ∧
    cronFieldMonth.reg = "^(?:\\*$|\\*/\\d+|\\d+-\\d+|\\d+)$" ∧
    cronFieldWeekDay.reg = "^(?:\\*$|\\d+-\\d+|[1-7]L|\\d+|[1-7]#[1-5])$" := ⟨rfl, rfl, rfl, rfl, rfl⟩

/-- the mask types are pairwise distinct nibbles at bit 60 and the field defaults carry their own type -/
theorem C20_anchor_masks :
    cronMaskType = 15 <<< 60 ∧ cronMaskTypeLastDM = 1 <<< 60 ∧ cronMaskTypeLastDW = 2 <<< 60 ∧ cronMaskTypeNDW = 3 <<< 60 ∧
    cronFieldMin.mask = 10 <<< 60 ∧ cronFieldHour.mask = 11 <<< 60 ∧ cronFieldDay.mask = 12 <<< 60 ∧
    cronFieldMonth.mask = 13 <<< 60 ∧ cronFieldWeekDay.mask = 14 <<< 60 ∧
    cronFieldMin.mask = cronMaskTypeMin ∧ cronFieldHour.mask = cronMaskTypeHour ∧ cronFieldDay.mask = cronMaskTypeDay ∧
    cronFieldMonth.mask = cronMaskTypeMonth ∧ cronFieldWeekDay.mask = cronMaskTypeWeekDay := by decide

/-- the macros are plain five-field specs -/
theorem C20_macros :
    (parseSpec "@hourly".toList).map Spec.print = some "1 * * * *".toList ∧
    (parseSpec "@daily".toList).map Spec.print = some "10 3 * * *".toList ∧
    (parseSpec "@monthly".toList).map Spec.print = some "20 4 1 * *".toList ∧
    (parseSpec "@weekly".toList).map Spec.print = some "30 5 * * 1".toList := by decide +kernel

/-- malformed classes are rejected (one representative each; the general statement is C20_parse_sound) -/
theorem C20_rejects :
    parseSpec "* * * *".toList = none ∧ parseSpec "* * * * * *".toList = none ∧ parseSpec "".toList = none ∧
    parseSpec "60 * * * *".toList = none ∧ parseSpec "* 24 * * *".toList = none ∧ parseSpec "* * 0 * *".toList = none ∧
    parseSpec "* * * 13 *".toList = none ∧ parseSpec "* * * * 0".toList = none ∧ parseSpec "* * * * 8".toList = none ∧
    parseSpec "5-4 * * * *".toList = none ∧ parseSpec "*/0 * * * *".toList = none ∧ parseSpec "*/60 * * * *".toList = none ∧
    parseSpec "*,1 * * * *".toList = none ∧ parseSpec "1,,2 * * * *".toList = none ∧ parseSpec "L * * * *".toList = none ∧
    parseSpec "* * * * L".toList = none ∧ parseSpec "* * 1L * *".toList = none ∧ parseSpec "* * * * 1#6".toList = none ∧
    parseSpec "* * * * 8L".toList = none ∧ parseSpec "* * * 1-6/2 *".toList = none ∧ parseSpec "* * * * */2".toList = none ∧
    parseSpec "@yearly".toList = none ∧ parseSpec "-1 * * * *".toList = none ∧ parseSpec "1x * * * *".toList = none := by decide +kernel

/-- any text that does not split into exactly five white-space separated fields (after macro expansion) is rejected -/
theorem C20_rejects_field_count (cs : List Char) (h : (fields (expandMacro cs)).length ≠ 5) : parseSpec cs = none := by
  unfold parseSpec
  split
  · rename_i heq
    rw [heq] at h
    simp at h
  · rfl

/-- an accepted text never has an out-of-range value, a descending range, a zero or oversized step, a misplaced
    `L`/`wL`/`w#n`, or an empty option: the contrapositive of C20_parse_sound, spelled out per option -/
theorem C20_accepted_options_valid (cs : List Char) (s : Spec) (h : parseSpec cs = some s) :
    (∀ i, s.minute = .list i → ∀ it ∈ i, it.valid .minute = true) ∧
    (∀ i, s.hour = .list i → ∀ it ∈ i, it.valid .hour = true) ∧
    (∀ i, s.day = .list i → ∀ it ∈ i, it.valid .day = true) ∧
    (∀ i, s.month = .list i → ∀ it ∈ i, it.valid .month = true) ∧
    (∀ i, s.wday = .list i → ∀ it ∈ i, it.valid .wday = true) := by
  have key : ∀ {k : Kind} {f : Field}, f.valid k = true → ∀ i, f = .list i → ∀ it ∈ i, it.valid k = true :=
    fun hv i hi => (Field.valid_list.mp (hi ▸ hv)).2
  obtain ⟨h1, h2, h3, h4, h5⟩ := Spec.valid_iff.mp (parseSpec_valid h)
  exact ⟨key h1, key h2, key h3, key h4, key h5⟩

section sched
variable (civil : CivilFn) (hciv : ∀ loc m, (civil loc m).wf)
include hciv

/-- Soundness, for every history of AddJob/RemoveJob/EnableJob/DisableJob calls and timer-function runs at any
    wall-clock minutes — the timer function taken as one step or as its two halves with calls landing between them:
    whatever the timer function runs at minute `now` is present, enabled and its spec denotes `now` in its location
    (so a disabled or removed job never runs and nothing runs at a minute outside its spec), and nothing runs twice. -/
theorem C20_fires_sound (s : Sched) (a : Bool) (hr : Reach civil s a) (now : Int) :
    (firedAt s now).Nodup ∧
    ∀ p ∈ firedAt s now, p ∈ s.jobs ∧ (s.objs p).disable = false ∧
      (s.objs p).spec.denote (civil (s.objs p).loc now) = true := by
  refine ⟨firedAt_nodup s now, fun p hp => ?_⟩
  have hi := (reach_inv civil hr).1
  obtain ⟨x, y, z⟩ := fired_sound civil s hi now p hp
  exact ⟨x, y, by rw [← runsAt_eq_denote civil hi hciv p x now]; exact z⟩

/-- Exactness: when c.schedule has run since the spool was last drained (createCron, or a complete timer run, followed
    by any calls) and the timer function runs in the minute it was armed for (c.next), it runs job object p  ⇔
    p is present ∧ enabled ∧ p's spec denotes that minute in p's location. -/
theorem C20_fires (s : Sched) (hr : Reach civil s true) (p : Nat) :
    p ∈ firedAt s s.next ↔
      (p ∈ s.jobs ∧ (s.objs p).disable = false ∧ (s.objs p).spec.denote (civil (s.objs p).loc s.next) = true) := by
  obtain ⟨hi, ha⟩ := reach_inv civil hr
  rw [fired_iff civil s hi (ha rfl) p]
  exact and_congr_right fun hp => by rw [runsAt_eq_denote civil hi hciv p hp s.next]

/-- completeness, spelled out -/
theorem C20_fires_complete (s : Sched) (hr : Reach civil s true) (p : Nat) (hp : p ∈ s.jobs)
    (he : (s.objs p).disable = false) (hm : (s.objs p).spec.denote (civil (s.objs p).loc s.next) = true) :
    p ∈ firedAt s s.next :=
  (C20_fires civil hciv s hr p).mpr ⟨hp, he, hm⟩

/-- at most once per run of the timer function (hence per minute, the timer being re-armed for the next minute) -/
theorem C20_fires_once (s : Sched) (a : Bool) (hr : Reach civil s a) (now : Int) : (firedAt s now).Nodup :=
  firedAt_nodup s now

/-- JobSchedule lists exactly the minutes of the window [since truncated to the minute, + period) that the job's spec
    denotes in the job's location, in ascending order; it fails exactly for unknown names -/
theorem C20_jobSchedule (s : Sched) (a : Bool) (hr : Reach civil s a) (name : Nat) (sinceNs periodNs : Int) :
    (jobSchedule civil s name sinceNs periodNs = none ↔ findJob s name = none) ∧
    ∀ l, jobSchedule civil s name sinceNs periodNs = some l →
      ∃ p, findJob s name = some p ∧ p ∈ s.jobs ∧ (s.objs p).name = name ∧ l.Pairwise (· < ·) ∧
        ∀ m, m ∈ l ↔ inWindow sinceNs periodNs m ∧ (s.objs p).spec.denote (civil (s.objs p).loc m) = true := by
  refine ⟨jobSchedule_none civil s name sinceNs periodNs, fun l hl => ?_⟩
  obtain ⟨p, hp, hs, hm⟩ := jobSchedule_spec civil s name sinceNs periodNs l hl
  obtain ⟨hpj, hpn⟩ := findJob_some hp
  refine ⟨p, hp, hpj, hpn, hs, fun m => ?_⟩
  rw [hm m, runsAt_eq_denote civil (reach_inv civil hr).1 hciv p hpj m]

/-- Schedule has an entry for exactly the window minutes some present job's spec denotes, carrying exactly those jobs -/
theorem C20_schedule (s : Sched) (a : Bool) (hr : Reach civil s a) (sinceNs periodNs : Int) (m : Int) (js : List Nat) :
    (m, js) ∈ scheduleList civil s sinceNs periodNs ↔
      inWindow sinceNs periodNs m ∧
      js = s.jobs.filter (fun p => (s.objs p).spec.denote (civil (s.objs p).loc m)) ∧ js ≠ [] := by
  rw [scheduleList_spec,
    List.filter_congr fun p hp => runsAt_eq_denote civil (reach_inv civil hr).1 hciv p hp m]

end sched

/-- a spec outside the grammar is refused by AddJob and leaves the object unchanged -/
theorem C20_add_rejects (civil : CivilFn) (s : Sched) (name : Nat) (text : List Char) (loc : Nat)
    (h : parseSpec text = none) :
    (step civil s (.add name text loc)).2 ≠ .ok ∧ (step civil s (.add name text loc)).1.jobs = s.jobs := by
  simp only [step, h]
  split <;> simp

/-- what the exactness hypothesis excludes: the timer function runs only entries that were pushed for the minute it
    runs in — a late or early run, or an entry pushed by a call that landed inside an earlier run, runs nothing wrong -/
theorem C20_runs_only_entries_of_this_minute (s : Sched) (now : Int) (p : Nat) (h : p ∈ firedAt s now) :
    (p, now) ∈ s.spool :=
  ((mem_firedAt s now p).mp h).1

-- non-vacuity of the scheduler theorems: a reachable state with a present, enabled, matching job that fires,
-- and one where a disabled job does not
def civUTC : CivilFn := fun _ m => ⟨2026, 1, 1, ((m / 60) % 24).toNat, (m % 60).toNat, 4⟩
def exState : Sched := (step civUTC (init 90) (.add 1 "30 1 * * *".toList 0)).1
-- `rw`: left to unify `exState` with the state `Reach.call` yields, Lean evaluates the parse to compare the two
theorem exState_reach : Reach civUTC exState true := by rw [exState]; exact Reach.call _ _ _ (Reach.init 90) rfl
example : Reach civUTC exState true := exState_reach

-- the text is parsed once and the two example states are evaluated once; the examples evaluate on the explicit states

theorem exText_parse :
    parseSpec "30 1 * * *".toList = some ⟨.list [.num 30], .list [.num 1], .star, .star, .star⟩ := by decide

theorem exState_eq : exState =
    ⟨fun q => if q = 0 then ⟨1, ⟨.list [.num 30], .list [.num 1], .star, .star, .star⟩, 0, false⟩ else JobObj.default,
      1, [0], [(0, 90)], 90⟩ := by
  rw [exState, step, exText_parse]; rfl

example : firedAt exState 90 = [0] := by rw [exState_eq]; decide
example : firedAt (step civUTC exState (.disable 1)).1 90 = [] := by rw [exState_eq]; decide
example : firedAt (step civUTC (step civUTC exState (.disable 1)).1 (.enable 1)).1 90 = [0] := by rw [exState_eq]; decide
example : firedAt exState 91 = [] := by rw [exState_eq]; decide
example : jobSchedule civUTC exState 1 (60 * minuteNs + 5) (61 * minuteNs) = some [90] := by rw [exState_eq]; decide
-- a call landing between the two halves of the timer function: the job added for the minute being processed
-- is spooled for that minute and does not run in the next one
def midState : Sched :=
  (step civUTC (step civUTC (step civUTC (init 90) (.tickDrain 90)).1 (.add 1 "30 1 * * *".toList 0)).1 (.tickSched 90)).1
theorem midState_reach : Reach civUTC midState true :=
  Reach.tickSched _ _ _ (Reach.call _ _ _ (Reach.tickDrain _ _ _ (Reach.init 90)) rfl)
example : Reach civUTC midState true := midState_reach
theorem midState_eq : midState =
    ⟨fun q => if q = 0 then ⟨1, ⟨.list [.num 30], .list [.num 1], .star, .star, .star⟩, 0, false⟩ else JobObj.default,
      1, [0], [(0, 90)], 91⟩ := by
  simp only [midState, step, exText_parse]; rfl
example : midState.spool = [(0, 90)] ∧ midState.next = 91 ∧ firedAt midState 91 = [] := by rw [midState_eq]; decide

/-! ## What the repaired defects looked like (statements about the unrepaired timer function, for the record) -/

/-- the spool loop before the repairs: every spooled, enabled entry runs, whatever minute it was pushed for -/
def fireLoopUnrepaired (objs : Nat → JobObj) (spool : List (Nat × Int)) : List Nat :=
  (spool.filter (fun e => (objs e.1).disable = false)).map (·.1)

/-- D17: with that loop "at most once per minute" fails — EnableJob on a spooled job makes it run twice -/
theorem C20_D17_unrepaired_counterexample :
    ∃ s, Reach civUTC s true ∧ ¬ (fireLoopUnrepaired s.objs s.spool).Nodup :=
  ⟨(step civUTC exState (.enable 1)).1, Reach.call _ _ _ exState_reach rfl, by rw [exState_eq]; decide⟩

/-- D26/D27: with that loop a run of the timer function executes entries pushed for another minute — after a late
    timer run, or after a call that landed between the two halves of an earlier run — at a minute the spec does not denote -/
theorem C20_D26_unrepaired_counterexample :
    ∃ s now p, Reach civUTC s true ∧ now = s.next ∧ p ∈ fireLoopUnrepaired s.objs s.spool ∧
      (s.objs p).spec.denote (civUTC (s.objs p).loc now) = false :=
  have h : 91 = midState.next ∧ 0 ∈ fireLoopUnrepaired midState.objs midState.spool ∧
      (midState.objs 0).spec.denote (civUTC (midState.objs 0).loc 91) = false := by rw [midState_eq]; decide
  ⟨midState, 91, 0, midState_reach, h⟩

end ErgoVerif.Props.C20
