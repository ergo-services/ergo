import ErgoVerif.ListFacts
import ErgoVerif.Lemmas.LinkRace
import ErgoVerif.Generated.LinkRace
import ErgoVerif.Model.Guard
/-!
# C14 — remote failure detection

Node down (first part, described next); then the incarnation guards of the connection methods (`Model/Guard.lean`, the
generated guard table), remote termination while connected (`TM.terminateLocal` / `terminateFrames`), and relations
created while the connection is being lost (`Model/LinkRace.lean`).


`TM.routeNodeDown` mirrors `node.RouteNodeDown` (node/core.go) on top of
`TM.cleanupNode` (gen/default_target_manager.go `CleanupNode`).  The theorems say,
for EVERY reachable TargetManager state and every node name:

* every relation whose target lives on the lost node (pid, name, alias, event, the node
  itself) and whose holder does not live there yields exactly one notification to its
  holder — an exit for a link, a down for a monitor;
* relations whose requester (consumer) lives on the lost node disappear without any
  notification;
* every other relation stays, in place; the index invariant is kept (so later
  `CleanupTarget` calls, which read the index only, still see exactly the surviving
  relations).
-/
namespace ErgoVerif.Props.C14
open ErgoVerif.TM

/-- **state after node down**: exactly the relations with neither end on the lost node remain
    (same order — nothing else is touched), and the index invariant is kept. -/
theorem C14_node_down_state {s : St} (h : Inv s) (n : Node) :
    (routeNodeDown s n).1.rel = s.rel.filter (fun k => !consumerOn n k && !targetOn n k) ∧
    Inv (routeNodeDown s n).1 :=
  ⟨cleanupNode_rel h n, cleanupNode_inv h n⟩

/-- **exactly one** exit/down per relation whose target lives on the lost node and whose holder does
    not; **none** for anything else (in particular none for relations whose requester lives there,
    none for relations on other nodes, never two). -/
theorem C14_node_down_exactly_once {s : St} (h : Inv s) (n : Node) (c : Pid) (t : Target) (m : Bool) :
    (routeNodeDown s n).2.count ⟨c, if m then .down else .exit, t⟩ =
      if (⟨c, t, m⟩ : Key) ∈ s.rel ∧ t.onNode n = true ∧ c.node ≠ n then 1 else 0 := by
  rw [routeNodeDown_notifs]
  refine count_map_of_inj (h.nodup.filter _) notifOf ⟨c, t, m⟩ (fun b _ => notifOf_injective b _) ?_
  simp [List.mem_filter, consumerOn, targetOn, and_comm]

/-- relations whose requester lives on the lost node vanish silently: no notification is addressed to
    any process of that node -/
theorem C14_requester_side_silent {s : St} (n : Node) (x : Notif)
    (hx : x ∈ (routeNodeDown s n).2) : x.to.node ≠ n := by
  rw [routeNodeDown_notifs] at hx
  obtain ⟨k, hk, rfl⟩ := List.mem_map.mp hx
  simp [List.mem_filter, consumerOn] at hk
  exact hk.2.1

/-- every notification of a node-down is about a target that lived on the lost node and was held -/
theorem C14_only_lost_targets {s : St} (n : Node) (x : Notif)
    (hx : x ∈ (routeNodeDown s n).2) :
    x.target.onNode n = true ∧
    (⟨x.to, x.target, decide (x.kind = .down)⟩ : Key) ∈ s.rel := by
  rw [routeNodeDown_notifs] at hx
  obtain ⟨k, hk, rfl⟩ := List.mem_map.mp hx
  simp [List.mem_filter, targetOn] at hk
  exact ⟨hk.2.2, (notifOf_key k).symm ▸ hk.1⟩

/-- a second node-down for the same node (e.g. a duplicate unregisterConnection) notifies nobody and
    changes nothing -/
theorem C14_node_down_idempotent {s : St} (h : Inv s) (n : Node) :
    (routeNodeDown (routeNodeDown s n).1 n).2 = [] ∧
    (routeNodeDown (routeNodeDown s n).1 n).1.rel = (routeNodeDown s n).1.rel := by
  have h1 := C14_node_down_state h n
  constructor
  · -- a notification would be about a relation on a lost target that the first pass has left
    refine List.eq_nil_iff_forall_not_mem.mpr fun x hx => ?_
    obtain ⟨ht, hk⟩ := C14_only_lost_targets n x hx
    simp [h1.1, targetOn, ht] at hk
  · -- and what it has left passes its test again
    rw [(C14_node_down_state h1.2 n).1, List.filter_eq_self]
    intro k hk
    rw [h1.1] at hk
    exact (List.mem_filter.mp hk).2

/-- the statements above hold at every state the TargetManager can reach from empty through any
    sequence of its 11 operations -/
theorem C14_reachable_inv (ops : List Op) : Inv (run init ops) := run_inv ops inv_init

/-- after the node-down, `CleanupTarget` (index-only) of a surviving target still returns exactly the
    surviving relations on it -/
theorem C14_index_consistent_after {s : St} (h : Inv s) (n : Node) (t : Target) (k : Key) :
    k ∈ (cleanupTarget (routeNodeDown s n).1 t).2 ↔
      (k ∈ s.rel ∧ k.consumer.node ≠ n ∧ k.target.onNode n = false) ∧ k.target = t := by
  have h1 := C14_node_down_state h n
  refine h1.2.mem_idx.trans ?_
  rw [h1.1]
  simp [List.mem_filter, consumerOn, targetOn]

/-! ### non-vacuity -/

private def pA : Pid := ⟨1, 1001, 7⟩      -- local process (node 1)
private def pB : Pid := ⟨1, 1002, 7⟩
private def rP : Pid := ⟨2, 1005, 9⟩      -- remote process on node 2
private def ops : List Op :=
  [.addLink pA (.pid rP), .addMonitor pA (.pid rP), .addMonitor pB (.name 2 5), .addLink pB (.alias 2 3 9),
   .addMonitor pA (.event 2 4), .addLink pA (.node 2), .addLink rP (.pid pA), .addMonitor pB (.pid pA),
   .addLink pB (.node 3)]

example : ((routeNodeDown (run init ops) 2).2).length = 6 := by decide
example : ((routeNodeDown (run init ops) 2).1.rel).length = 2 := by decide
example : (routeNodeDown (run init ops) 2).2.count ⟨pA, .exit, .pid rP⟩ = 1 := by decide
example : (routeNodeDown (run init ops) 2).2.count ⟨rP, .exit, .pid pA⟩ = 0 := by decide

section Incarnation
open ErgoVerif.Gen.Guard ErgoVerif.GuardModel

/-- every exported connection method that addresses a pid or an alias checks its creation stamp as its very first
    statement, against the right incarnation (finite generated table) -/
theorem guard_table_ok : table.all WellGuarded = true := by decide

/-- the table is not empty / not the fallback: the 15 remote-addressed and the 2 Terminate methods are there -/
theorem guard_table_rows :
    (table.filter fun r => r.ptype != "" && !r.localSubject).length = 15 ∧
    (table.filter fun r => r.ptype != "" && r.localSubject).length = 2 := by decide

theorem call_guarded (r : Row) (hr : r ∈ table) (hp : r.ptype ≠ "") (ident peer loc : Nat) :
    call r ident peer loc =
      (if ident ≠ (if r.localSubject then loc else peer) then .errIncarnation else .proceeds, 0) := by
  have hw := List.all_eq_true.mp guard_table_ok r hr
  simp only [WellGuarded, Bool.or_eq_true, beq_iff_eq, Bool.and_eq_true] at hw
  rcases hw with hw | ⟨h0, h1⟩
  · exact absurd hw hp
  · cases hl : r.localSubject <;> simp [hl] at h1 <;> simp [call, h1, h0]

/-- **stale identifiers are refused before anything is produced**: for every guarded method, an identifier whose
    creation differs from the connected peer's incarnation yields ErrProcessIncarnation with no statement
    (hence no buffer, no frame byte) executed before the verdict -/
theorem C14_incarnation (r : Row) (hr : r ∈ table) (hp : r.ptype ≠ "") (hl : r.localSubject = false)
    (ident peer loc : Nat) (h : ident ≠ peer) : call r ident peer loc = (.errIncarnation, 0) := by
  simp [call_guarded r hr hp, hl, h]

/-- an identifier of the current incarnation passes the guard -/
theorem C14_current_incarnation_passes (r : Row) (hr : r ∈ table) (hp : r.ptype ≠ "") (hl : r.localSubject = false)
    (peer loc : Nat) : call r peer peer loc = (.proceeds, 0) := by
  simp [call_guarded r hr hp, hl]

/-- **remote termination is announced whatever the peer's incarnation is** (D26 repaired): the subject of a
    Terminate frame lives on the sending node, its creation is the sender's own, and the guard compares it with the
    sender's own creation — so the frame is produced for every peer creation -/
theorem C14_terminate_announced (r : Row) (hr : r ∈ table) (hp : r.ptype ≠ "") (hl : r.localSubject = true)
    (peer loc : Nat) : call r loc peer loc = (.proceeds, 0) := by
  simp [call_guarded r hr hp, hl]

example : (⟨"SendPID", "to", "PID", false, 1, 0⟩ : Row) ∈ table := by decide
example : (⟨"SendTerminatePID", "target", "PID", true, 2, 0⟩ : Row) ∈ table := by decide
example : call ⟨"SendPID", "to", "PID", false, 1, 0⟩ 99 100 7 = (.errIncarnation, 0) := by decide

end Incarnation

section RemoteTermination
open ErgoVerif.Gen.Guard ErgoVerif.GuardModel

/-- on the holder's node: `RouteTerminate*` (run when the Terminate frame arrives) gives every local holder of the target
    exactly one exit/down carrying the reason of the frame, and nobody else anything -/
theorem C14_remote_termination_exactly_once {s : St} (h : Inv s) (self : Node) (t : Target) (reason : Nat)
    (c : Pid) (m : Bool) :
    (terminateLocal self s t reason).2.count ⟨c, if m then .down else .exit, t, reason⟩ =
      if (⟨c, t, m⟩ : Key) ∈ s.rel ∧ c.node = self then 1 else 0 := by
  refine count_map_of_inj ((h.idx_nodup t).filter _) (tnotifOf t reason) ⟨c, t, m⟩ (fun b hb =>
    tnotifOf_inj t reason (h.mem_idx.mp (List.mem_filter.mp hb).1).2) ?_
  simp [List.mem_filter, h.mem_idx]

theorem C14_remote_termination_reason (self : Node) (s : St) (t : Target) (reason : Nat) (x : TNotif)
    (hx : x ∈ (terminateLocal self s t reason).2) : x.target = t ∧ x.reason = reason ∧ x.to.node = self := by
  unfold terminateLocal at hx
  obtain ⟨k, hk, rfl⟩ := List.mem_map.mp hx
  simp only [List.mem_filter, decide_eq_true_eq] at hk
  exact ⟨rfl, rfl, hk.2⟩

/-- two nodes: the target lives on `nb` and terminates with `reason`; a holder `c` on another node `na` is recorded on both
    nodes (as RouteLink*/RouteMonitor* do).  Then (1) `nb` sends exactly one Terminate frame to `na`, (2) for pid/alias
    targets the frame passes the incarnation guard whatever the creations of the two nodes are, (3) `na`, running
    RouteTerminate* with the reason of the frame, delivers exactly one exit/down with that reason to `c`, and
    (4) afterwards neither table holds the relation. -/
theorem C14_remote_termination_end_to_end {sa sb : St} (ha : Inv sa) (hb : Inv sb) (na nb : Node) (hne : na ≠ nb)
    (t : Target) (c : Pid) (m : Bool) (reason : Nat) (hc : c.node = na)
    (hka : (⟨c, t, m⟩ : Key) ∈ sa.rel) (hkb : (⟨c, t, m⟩ : Key) ∈ sb.rel) :
    (terminateFrames nb sb t).count na = 1 ∧
    (∀ r ∈ table, r.ptype ≠ "" → r.localSubject = true → ∀ creA creB, call r creB creA creB = (.proceeds, 0)) ∧
    (terminateLocal na sa t reason).2.count ⟨c, if m then .down else .exit, t, reason⟩ = 1 ∧
    (∀ k ∈ (terminateLocal na sa t reason).1.rel, k.target ≠ t) ∧
    (∀ k ∈ (terminateLocal nb sb t reason).1.rel, k.target ≠ t) := by
  refine ⟨?_, C14_terminate_announced, ?_, cleanupTarget_gone ha t, cleanupTarget_gone hb t⟩
  · rw [(terminateFrames_nodup nb sb t).count, if_pos]
    exact hc ▸ terminateFrames_complete hb nb t c m hkb (by rw [hc]; exact hne)
  · rw [C14_remote_termination_exactly_once ha na t reason c m, if_pos ⟨hka, hc⟩]

end RemoteTermination

section Race
open ErgoVerif.LinkRace

/-- the code as it is: RouteLink*/RouteMonitor* look at the connection table again after the insert (regenerated) -/
abbrev rc : Bool := ErgoVerif.Gen.LinkRace.remoteRecheckAfterAdd

/-- full statement for relations created concurrently with node-downs and reconnections: whenever no request is between
    its steps, every recorded relation on a remote target is covered by a connection with that target's node — so the
    next node-down cleans it up and notifies its holder (`C14_node_down_exactly_once`); none is left behind without a
    connection. Requests that found their connection gone were either refused (relation removed again) or had been
    cleaned up, hence notified, by the node-down in between. -/
def C14_race_full (b : Bool) : Prop :=
  ∀ (es : List Ev),
    (run b init es).pending = [] → (run b init es).unchecked = [] →
    ∀ k ∈ (run b init es).tm.rel, ∀ n, k.target.onNode n = true → ((run b init es).connOf n).isSome = true

/-- **Request vs node-down, for the code as it is**: for every interleaving of requests (answer, insert, re-check),
    node-downs and new connections. -/
theorem C14_race : C14_race_full rc := by
  have h : rc = true := by decide
  rw [h]
  intro es hp hu k hk n hn
  have hi := LinkRace.run_inv es inv_init
  rcases hi.covered k hk n hn with hc | ⟨r, hr, _⟩
  · exact hc
  · rw [hu] at hr; cases hr

/-- the model's `down` is one step — the connection leaves the table and the relations are drained; that is faithful
    for the re-check only because the code deletes the table entry BEFORE it drains (a re-check that still sees the
    connection is then certainly ahead of the drain). Regenerated from network.unregisterConnection. -/
theorem C14_code_shape_down : ErgoVerif.Gen.LinkRace.connectionDeletedBeforeNodeDown = true := by decide

/-- the code before the repair (listed finding C14/F1, now fixed): answer, node-down, then the local insert — the
    relation is recorded after the cleanup, nobody is ever notified (replayed on the real node by the harness through the
    yield point `RouteLinkPID:remote:before-add`). Kept as a regression statement. -/
theorem C14_race_before_fix : ¬ C14_race_full false := by
  intro h
  have := h [.up 2, .answered ⟨⟨1, 1001, 7⟩, .pid ⟨2, 1005, 9⟩, false⟩ 2, .down 2,
    .add ⟨⟨⟨1, 1001, 7⟩, .pid ⟨2, 1005, 9⟩, false⟩, 2, 0⟩] (by decide) (by decide)
    ⟨⟨1, 1001, 7⟩, .pid ⟨2, 1005, 9⟩, false⟩ (by decide) 2 (by decide)
  revert this
  decide

/-- the notifications of every node-down are exactly-once for what is recorded at that moment, in every reachable state -/
theorem C14_race_notified (es : List Ev) (n : Node) (c : Pid) (t : Target) (m : Bool) :
    (routeNodeDown (run rc init es).tm n).2.count ⟨c, if m then .down else .exit, t⟩ =
      if (⟨c, t, m⟩ : Key) ∈ (run rc init es).tm.rel ∧ t.onNode n = true ∧ c.node ≠ n then 1 else 0 := by
  have h : rc = true := by decide
  rw [h]
  exact C14_node_down_exactly_once (LinkRace.run_inv es inv_init).tm n c t m

/-- non-vacuity: a request completed under a live connection is granted and notified once by the next node-down; one
    whose connection is lost between the answer and the insert is refused and leaves nothing behind -/
example :
    let k : Key := ⟨⟨1, 1001, 7⟩, .pid ⟨2, 1005, 9⟩, false⟩
    let s := run true init [.up 2, .answered k 2, .add ⟨k, 2, 0⟩, .recheck ⟨k, 2, 0⟩, .down 2]
    s.granted = [k] ∧ s.notifs.length = 1 ∧ s.tm.rel = [] := by decide

example :
    let k : Key := ⟨⟨1, 1001, 7⟩, .pid ⟨2, 1005, 9⟩, false⟩
    let s := run true init [.up 2, .answered k 2, .down 2, .add ⟨k, 2, 0⟩, .recheck ⟨k, 2, 0⟩]
    s.granted = [] ∧ s.refused = [k] ∧ s.tm.rel = [] := by decide

end Race

end ErgoVerif.Props.C14
