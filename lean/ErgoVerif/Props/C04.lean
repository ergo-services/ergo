import ErgoVerif.Common
import ErgoVerif.ListFacts
import ErgoVerif.Lemmas.LinkOps
import ErgoVerif.Generated.LinkRace
/-!
# C04 — links and monitors: exactly one notification when the target goes away

`Model/TM.lean` mirrors gen/default_target_manager.go (relation set + per-target index);
`Model/LinkOps.lean` the node-level operations that use it and the request-vs-termination race.
-/
namespace ErgoVerif.Props.C04
open ErgoVerif.TM ErgoVerif.LinkOps

/-- every history of operations keeps the relation set duplicate-free and the per-target index in agreement with it -/
theorem C04_index_invariant (ops : List LinkOps.Op) : Inv (runOps World.init ops).tm :=
  runOps_inv ops inv_init

/-- **Exactly one notification.** In any state reached by any history, when a target goes away (process terminated,
name / alias / event unregistered): every holder of a link on it gets exactly one exit signal and every holder of a
monitor exactly one down message naming that target; a process without such a relation — never created, or removed
before — gets none; nothing about other targets is sent; and no relation on the target remains. -/
theorem C04_exactly_once (ops : List LinkOps.Op) (t : Target) :
    let w := runOps World.init ops
    let r := goneStep w t
    (∀ c m, (r.2.count ⟨c, if m then .down else .exit, t⟩) = if (⟨c, t, m⟩ : Key) ∈ w.tm.rel then 1 else 0) ∧
    (∀ n ∈ r.2, n.target = t) ∧
    (∀ k ∈ r.1.tm.rel, k.target ≠ t) ∧
    r.1.sent = w.sent ++ r.2 := by
  intro w r
  have hinv : Inv w.tm := C04_index_invariant ops
  obtain ⟨hnd, hmem⟩ := hinv.2 t
  refine ⟨fun c m => ?_, ?_, cleanupTarget_gone hinv t, rfl⟩
  · exact count_map_of_inj hnd notifOf ⟨c, t, m⟩ (fun b _ => notifOf_injective b _)
      ((hmem _).trans (and_iff_left rfl))
  · intro n hn
    obtain ⟨k, hk, rfl⟩ := List.mem_map.mp hn
    exact ((hmem k).mp hk).2

/-- a removed relation is gone: after unlink / demonitor succeeded the relation set no longer contains it, so by
`C04_exactly_once` its former holder is not notified -/
theorem C04_removed (w : World) (h : Inv w.tm) (c : Pid) (t : Target) (m : Bool) :
    (⟨c, t, m⟩ : Key) ∉ (delRel w ⟨c, t, m⟩).1.tm.rel := by
  unfold delRel
  simp only [remove_rel]
  exact h.nodup.not_mem_erase

/-- a request on a target that does not exist fails and creates nothing -/
theorem C04_unknown_target (w : World) (k : Key) (hl : w.live k.target = false) :
    addRel w k = (w, .errUnknown) := by
  simp [addRel, hl]

/-- **Complete release on termination**: after `unregisterProcess` of p, which owned the targets
`owned` (name, aliases, events), no relation mentions p as requester nor any of its targets. -/
theorem C04_release (ops : List LinkOps.Op) (p : Pid) (owned : List Target) :
    let w' := (step (runOps World.init ops) (.terminate p owned)).1
    ∀ k ∈ w'.tm.rel, k.consumer ≠ p ∧ k.target ≠ .pid p ∧ k.target ∉ owned := by
  intro w' k hk
  obtain ⟨hinv2, hrel⟩ := goneAll_spec (.pid p :: owned) _ (C04_index_invariant ops)
  refine ⟨cleanupConsumer_gone hinv2 p k hk, ?_⟩
  have hk2 := (List.mem_filter.mp (cleanupConsumer_rel hinv2 p ▸ hk : k ∈ _)).1
  rw [hrel] at hk2
  simpa using (List.mem_filter.mp hk2).2

open Race in
/-- the full statement: whatever the interleaving of the requester's steps with the terminator's, a request that
reported success has been notified once both are done -/
def C04_race_full (recheck : Bool) : Prop :=
  ∀ ls c, Race.run recheck Race.init ls = some c → c.l = .doneOk → c.t = .done → c.notified = true

open Race in
/-- **The code before the repair of D15** (no re-check): the request checks the table, then adds the relation; the
terminator deletes the table entry, then drains. check · delete · drain · add loses the relation: the request reports
success and is never notified. Kept as a regression statement. -/
theorem C04_race_counterexample : ¬ C04_race_full false := by
  intro h
  have := h [.lStep, .tStep, .tStep, .lStep] ⟨false, true, .doneOk, .done, false⟩ (by decide) rfl rfl
  simp at this

namespace RaceProof
open Race

/-- the inductive invariant of the race with re-check, as a decidable predicate: what holds at each program point of
    the terminator and of the requester.  The line for `doneOk` carries the conclusion: the relation is there or was
    notified, and once the drain is done it is not there. -/
def good (c : Cfg) : Bool :=
  (match c.t with
   | .delete => c.inTable && !c.notified
   | _ => !c.inTable) &&
  match c.l with
  | .check | .add | .doneErr => !c.rel && !c.notified
  | .recheck => c.rel != c.notified
  | .doneOk => c.rel != c.notified && (c.t != .done || !c.rel)

def allCfgs : List Cfg :=
  [true, false].flatMap fun a => [true, false].flatMap fun b =>
  [LPc.check, .add, .recheck, .doneOk, .doneErr].flatMap fun l => [TPc.delete, .drain, .done].flatMap fun t =>
  [true, false].map fun n => ⟨a, b, l, t, n⟩

theorem all_mem (c : Cfg) : c ∈ allCfgs := by
  obtain ⟨a, b, l, t, n⟩ := c
  simp only [allCfgs, List.mem_flatMap, List.mem_map]
  exact ⟨a, by cases a <;> simp, b, by cases b <;> simp, l, by cases l <;> simp, t, by cases t <;> simp,
    n, by cases n <;> simp, rfl⟩

/-- `good` is inductive: 120 configurations, two labels, by evaluation -/
theorem step_good : ∀ c l c', good c = true → Race.step true c l = some c' → good c' = true :=
  inv_of_sweep allCfgs all_mem [.lStep, .tStep] (by intro a; cases a <;> simp) good (Race.step true) (by decide)

theorem run_good (ls : List Lbl) (c c' : Cfg) (h : good c = true) (hr : Race.run true c ls = some c') :
    good c' = true := by
  fun_induction Race.run true c ls
  · cases hr; exact h
  · cases hr
  · next c l ls c1 hs ih => exact ih (step_good c l c1 h hs) hr

end RaceProof

open Race in
/-- with a re-check after the insert the statement holds for every interleaving -/
theorem C04_race_with_recheck : C04_race_full true := by
  intro ls c hr hl ht
  have hg := RaceProof.run_good ls Race.init c (by decide) hr
  simp only [RaceProof.good, hl, ht, Bool.and_eq_true] at hg
  simpa [show c.rel = false by simpa using hg.2.2] using hg.2.1

/-- **The race, for the code as it is** (`Gen.LinkRace.recheckAfterAdd`, regenerated from the eight local branches of
RouteLink*/RouteMonitor*): a request that overlaps the target's termination either fails or is notified, for every
interleaving of its lookup / insert / re-check with the terminator's table delete / drain. -/
theorem C04_race : C04_race_full Gen.LinkRace.recheckAfterAdd := by
  have h : Gen.LinkRace.recheckAfterAdd = true := by decide
  rw [h]
  exact C04_race_with_recheck

/-- what the extractor saw in the source: every one of the eight local branches looks the target up again after the
insert, and the table delete precedes the drain in unregisterProcess — the shape `Race` models with `recheck := true` -/
theorem C04_code_shape : Gen.LinkRace.recheckAfterAdd = true ∧ Gen.LinkRace.deleteBeforeDrain = true ∧
    Gen.LinkRace.lookups.length = 8 ∧ (∀ e ∈ Gen.LinkRace.lookups, e.2 = 2) := by decide

/-- … and at every site where a target disappears — the four kinds of identifiers in unregisterProcess, UnregisterName,
DeleteAlias, UnregisterEvent — the table entry is removed before the relations on the target are drained (the
terminator of `Race`: `delete`, then `drain`) -/
theorem C04_code_shape_sites : Gen.LinkRace.drainOrder.length = 7 ∧ (∀ e ∈ Gen.LinkRace.drainOrder, e.2 = true) := by
  decide

/-- non-vacuity: a history with two holders of different kinds and an unrelated process -/
example :
    let p (i : Nat) : Pid := ⟨0, i, 1⟩
    let w := runOps World.init [.create (.pid (p 1)), .link (p 2) (.pid (p 1)), .monitor (p 3) (.pid (p 1)),
                               .link (p 4) (.pid (p 1)), .unlink (p 4) (.pid (p 1))]
    (goneStep w (.pid (p 1))).2.length = 2 := by decide

end ErgoVerif.Props.C04
