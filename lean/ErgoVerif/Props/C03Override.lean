import ErgoVerif.Model.Override
import ErgoVerif.Generated.Override
/-!
# C03 — the priority a message is sent with is the one asked for, and an override lasts one operation

The ordering theorems of `Props/C03` are about the priority carried by each message. These say where that priority
comes from for a sequence of operations of one process: a plain Send/Call carries the process's configured priority and
importance whatever happened before — in particular after a `…WithPriority` / `…Important` operation that FAILED.

* `C03_override_one_operation` — for every sequence of operations with any outcomes: the k-th operation is sent with the
                                 configured values, overridden only by its own arguments
* `C03_override_leaks_without_restore` — restoring only on success: a failed CallWithPriority leaves its priority behind
* `C03_code_shape_overrides`  — the four wrappers of the current source put the old value back on every path
-/
namespace ErgoVerif.Props.C03Override
open ErgoVerif.Override

theorem after_restores (p : P) (o : Op) : after true p o = p := by
  cases o <;> simp [after]

theorem trace_eq (p : P) (os : List Op) : trace true p os = os.map (sentWith p) := by
  induction os with
  | nil => rfl
  | cons o os ih => simp [trace, after_restores, ih]

theorem C03_override_one_operation_full (ra : Bool) (hra : ra = true) (p : P) (os : List Op) (k : Nat) (o : Op)
    (hk : os[k]? = some o) : (trace ra p os)[k]? = some (sentWith p o) := by
  subst hra
  rw [trace_eq]
  simp [hk]

def allRestored : Bool :=
  ["SendWithPriority", "CallWithPriority", "SendImportant", "CallImportant"].all fun m =>
    ErgoVerif.Gen.Override.sites.any fun s => s.method == m && s.restored

theorem C03_code_shape_overrides :
    allRestored = true ∧ ErgoVerif.Gen.Override.sites.all (fun s => s.restored) = true := by decide

/-- for the code as it is: every operation is sent with the configured priority / importance, overridden only by its
    own arguments, whatever the outcomes of the operations before it -/
theorem C03_override_one_operation (p : P) (os : List Op) (k : Nat) (o : Op) (hk : os[k]? = some o) :
    (trace allRestored p os)[k]? = some (sentWith p o) :=
  C03_override_one_operation_full _ C03_code_shape_overrides.1 p os k o hk

/-- restoring only when the inner operation succeeded: after a failed CallWithPriority(2) the next plain send of a
    normal-priority (0) process is sent with priority 2 -/
theorem C03_override_leaks_without_restore :
    trace false ⟨0, false⟩ [.withPriority 2 false, .plain true] = [(2, false), (2, false)] ∧
    trace true ⟨0, false⟩ [.withPriority 2 false, .plain true] = [(2, false), (0, false)] := by decide

end ErgoVerif.Props.C03Override
