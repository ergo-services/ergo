import ErgoVerif.Props.C10
import ErgoVerif.Generated.SpawnFail
/-!
# C10 — the fault point "during start-up"

A process whose `ProcessInit` fails never becomes visible: `node.spawn` returns the error. It may already have spawned
children (a supervisor starts all its children inside ProcessInit; any actor may spawn in Init). `failInit i` is that
path for process i. `nf` (regenerated: `Gen.SpawnFail.notifiesLinked`) says whether the path notifies the processes that
linked themselves with i (LinkParent) — `RouteTerminatePID` — or only walks the links i holds itself; in the latter
shape children spawned with LinkParent alone are told nothing (`markDead`).

* `C10_no_orphans_init`    — with the notification, the no-orphans statement of `Props/C10` holds over the larger
                             label set: for every history with failed starts at any depth, at any moment
* `C10_D34_before_fix`     — without it: root, child (LinkParent), the root's Init fails: the child runs on, no exit
                             signal is on its way (defect D34)
-/
namespace ErgoVerif.Props.C10Init
open ErgoVerif.Tree ErgoVerif.Props.C10

/-- the failing process disappears, nobody is told -/
def markDead (c : Cfg) (i : Nat) : Cfg :=
  (c.zipIdx).map fun (p, j) => if j = i then { p with alive := false, pendingExit := false } else p

inductive LblF
  | base (l : Lbl)
  | failInit (i : Nat)     -- ProcessInit of i returns an error (i is executing its Init: alive in the model's sense)
deriving Repr

def stepF (nf : Bool) (c : Cfg) : LblF → Option Cfg
  | .base l => step c l
  | .failInit i => if isAlive c i then some (if nf then kill c i else markDead c i) else none

def ReachF (nf : Bool) (c : Cfg) : Prop := ∃ ls, run (stepF nf) [] ls = some c

theorem stepF_inv (c : Cfg) (l : LblF) (c' : Cfg) (h : Inv c) (hs : stepF true c l = some c') : Inv c' := by
  revert hs
  fun_cases stepF true c l <;> intro hs
  · exact step_inv c _ c' h hs
  · cases hs; exact kill_inv c _ h
  · cases hs

theorem reachF_inv {c : Cfg} (h : ReachF true c) : Inv c := by
  obtain ⟨ls, hr⟩ := h
  exact run_inv (Inv := Inv) stepF_inv inv_init hr

theorem C10_code_shape_spawn_failure :
    Gen.SpawnFail.notifiesLinked = true ∧ Gen.SpawnFail.signalsOwnLinkTargets = true := by decide

/-- **No orphans, failed starts included** — for the code as it is -/
theorem C10_no_orphans_init (c : Cfg) (h : ReachF Gen.SpawnFail.notifiesLinked c) (hq : quiescent c)
    (i a : Nat) (hi : isAlive c i = true) (ha : Ancestor c a i) : isAlive c a = true :=
  no_orphans_of_inv c (reachF_inv (C10_code_shape_spawn_failure.1 ▸ h)) hq i a hi ha

/-- defect D34: without the notification a child spawned with LinkParent by a process whose Init then fails keeps
    running, and nothing is on its way to stop it -/
theorem C10_D34_before_fix :
    ∃ c, ReachF false c ∧ quiescent c ∧ isAlive c 1 = true ∧ isAlive c 0 = false ∧
      (∃ p, c[1]? = some p ∧ p.parent = some 0) :=
  ⟨_, ⟨[.base .spawnRoot, .base (.spawnChild 0), .failInit 0], rfl⟩, by decide, by decide, by decide, ⟨_, rfl, rfl⟩⟩

/-- non-vacuity: with the notification the same history leaves the child with the exit signal pending, then gone -/
example : ∃ c, ReachF true c ∧ quiescent c ∧ isAlive c 1 = false ∧ isAlive c 0 = false :=
  ⟨_, ⟨[.base .spawnRoot, .base (.spawnChild 0), .failInit 0, .base (.handleExit 1)], rfl⟩, by decide, by decide, by decide⟩

end ErgoVerif.Props.C10Init
