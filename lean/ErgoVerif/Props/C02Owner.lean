import ErgoVerif.ListFacts
import ErgoVerif.Model.MsgOwner
import ErgoVerif.Generated.Owner
/-!
# C02 — "handled exactly once", the part that rests on the ownership of mailbox message objects

The mailbox message objects are recycled through one node-wide pool. If an object is put back twice, two later senders
get the same object: the second overwrites the message of the first while it is still queued (one accepted message is
lost, another handled twice), and the second release wipes an object that sits in a mailbox.

`C02_owner_full` : when every release site resets the loop variable, in every reachable state of every interleaving of
senders and the loop, the pool holds no object twice and none that is still queued or being handled.
`C02_owner_without_reset` : one site that does not reset breaks it (a witness).
`C02_owner` : for the code as it is (regenerated list of release sites).
-/
namespace ErgoVerif.Props.C02Owner
open ErgoVerif.MsgOwner

/-- the pool, the queue and the loop's variable hold each object at most once between them (`fnd`, `qnd`: no repetition
    inside one; `fq`, `fc`, `qc`: no object in two), and every object in one of them is below `fresh` (`fb`, `qb`, `cb`) -/
structure Inv (s : St) : Prop where
  fnd : s.free.Nodup
  qnd : s.queued.Nodup
  fq : ∀ o ∈ s.free, o ∉ s.queued
  fc : ∀ o ∈ s.free, s.cur ≠ some o
  qc : ∀ o ∈ s.queued, s.cur ≠ some o
  fb : ∀ o ∈ s.free, o < s.fresh
  qb : ∀ o ∈ s.queued, o < s.fresh
  cb : ∀ o, s.cur = some o → o < s.fresh

theorem inv_init : Inv init := by
  constructor <;> simp [init]

theorem step_inv (s : St) (e : Ev) (h : Inv s) : Inv (step true s e) := by
  -- A step moves one object from one of the three places to another: they stay without repetition and disjoint. The
  -- bounds by `fresh` serve `take` on an empty pool alone: the object it makes is in none of the places.
  fun_cases step true s e
  · next o rest hf =>   -- take, out of the pool
    obtain ⟨hno, fnd⟩ := List.nodup_cons.mp (hf ▸ h.fnd)
    have ho : o ∈ s.free := hf ▸ List.mem_cons_self
    have mem {a} (ha : a ∈ rest) : a ∈ s.free := hf ▸ List.mem_cons_of_mem _ ha
    exact {
      fnd := fnd
      qnd := nodup_snoc.mpr ⟨h.fq o ho, h.qnd⟩
      fq := fun a ha hq => (List.mem_append.mp hq).elim (h.fq a (mem ha)) fun e => hno (List.mem_singleton.mp e ▸ ha)
      fc := fun a ha => h.fc a (mem ha)
      qc := List.forall_mem_append.mpr ⟨h.qc, List.forall_mem_singleton.mpr (h.fc o ho)⟩
      fb := fun a ha => h.fb a (mem ha)
      qb := List.forall_mem_append.mpr ⟨h.qb, List.forall_mem_singleton.mpr (h.fb o ho)⟩
      cb := h.cb }
  · next hf =>   -- take, the pool empty: `s.fresh` is new
    exact {
      fnd := h.fnd
      qnd := nodup_snoc.mpr ⟨fun hm => Nat.lt_irrefl _ (h.qb _ hm), h.qnd⟩
      fq := by simp [hf]
      fc := h.fc
      qc := List.forall_mem_append.mpr ⟨h.qc, List.forall_mem_singleton.mpr fun hc => Nat.lt_irrefl _ (h.cb _ hc)⟩
      fb := by simp [hf]
      qb := List.forall_mem_append.mpr
        ⟨fun a ha => Nat.lt_succ_of_lt (h.qb a ha), List.forall_mem_singleton.mpr (Nat.lt_succ_self _)⟩
      cb := fun a ha => Nat.lt_succ_of_lt (h.cb a ha) }
  · exact h
  · next c hc =>   -- release: `c` goes from the variable to the pool
    exact {
      fnd := List.nodup_cons.mpr ⟨fun hm => h.fc c hm hc, h.fnd⟩
      qnd := h.qnd
      fq := List.forall_mem_cons.mpr ⟨fun hq => h.qc c hq hc, h.fq⟩
      fc := by simp
      qc := by simp
      fb := List.forall_mem_cons.mpr ⟨h.cb c hc, h.fb⟩
      qb := h.qb
      cb := by simp }
  · exact h
  · next o rest hq =>   -- pop: `o` goes from the queue to the variable
    obtain ⟨hno, qnd⟩ := List.nodup_cons.mp (hq ▸ h.qnd)
    have ho : o ∈ s.queued := hq ▸ List.mem_cons_self
    have mem {a} (ha : a ∈ rest) : a ∈ s.queued := hq ▸ List.mem_cons_of_mem _ ha
    exact {
      fnd := h.fnd
      qnd := qnd
      fq := fun a ha hm => h.fq a ha (mem hm)
      fc := fun a ha hc => h.fq a ha (Option.some.inj hc ▸ ho)
      qc := fun a ha hc => hno (Option.some.inj hc ▸ ha)
      fb := h.fb
      qb := fun a ha => h.qb a (mem ha)
      cb := fun a ha => Option.some.inj ha ▸ h.qb o ho }

theorem run_inv (tr : List Ev) {s : St} (h : Inv s) : Inv (run true s tr) := by
  induction tr generalizing s with
  | nil => exact h
  | cons e es ih => exact ih (step_inv s e h)

/-- the flag form: if every release site resets the variable, the pool never holds an object twice and never one that is
    still queued or being handled — for every interleaving of senders and the loop, of any length -/
theorem C02_owner_full (rs : Bool) (hrs : rs = true) (tr : List Ev) : (run rs init tr).exclusive := by
  subst hrs
  have h := run_inv tr inv_init
  exact ⟨h.fnd, fun o ho => ⟨h.fq o ho, h.fc o ho⟩⟩

/-- a release site that keeps the variable: the same object is put back twice (take, pop, release, release), and the
    next two senders share it -/
theorem C02_owner_without_reset :
    ¬ (run false init [.take, .pop, .release, .release]).exclusive ∧
    (run false init [.take, .pop, .release, .release, .take, .take]).queued = [0, 0] := by
  refine ⟨?_, by decide⟩
  intro h
  have : (run false init [.take, .pop, .release, .release]).free = [0, 0] := by decide
  have h1 := h.1
  rw [this] at h1
  exact absurd h1 (by decide)

/-- every release site of the current source is guarded by `!= nil` on the same variable and resets it -/
def allReset : Bool := ErgoVerif.Gen.Owner.releaseSites.all (fun s => s.guarded && s.reset)

theorem C02_code_shape_release_sites :
    allReset = true ∧ ErgoVerif.Gen.Owner.releaseSites.any (fun s => s.file == "node/meta.go") = true ∧
    ErgoVerif.Gen.Owner.releaseSites.any (fun s => s.file == "act/actor.go") = true := by
  decide

/-- for the code as it is -/
theorem C02_owner (tr : List Ev) : (run allReset init tr).exclusive :=
  C02_owner_full allReset C02_code_shape_release_sites.1 tr

/-! non-vacuity: objects do get recycled in the model -/
example : (run true init [.take, .pop, .take, .release, .pop, .take]).queued = [0] ∧
    (run true init [.take, .pop, .take, .release, .pop, .take]).cur = some 1 := by decide

end ErgoVerif.Props.C02Owner
