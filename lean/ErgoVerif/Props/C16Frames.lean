/-
C16 (frame-parser part) — hostile input safety of the protocol frame reader.

Model: Model/Stream.lean (`read()`/`serve()` of net/proto/connection.go with Go's index
operations explicit; the outcome `crash` is an index panic in the serve() goroutine, which has
no `recover` and therefore kills the node), Model/StreamLink.lean (`linkCfg`: magic, version and the
lower bound on the length field as extracted from the working tree, Generated/Proto.lean).

Statement: for EVERY byte stream, cut into chunks in ANY way, and every max-message-size
setting, the reader ends in "waiting for more input" or in an error that closes this link only;
it never reaches the unrecovered panic.  Every frame it hands to the decoding workers is at least
8 bytes long (so the worker's `switch buf.B[7]` is in range), carries the right magic/version, has
a length field equal to its length and respects the max-message-size.

Second part (`section Alloc`): what the compressed receive case allocates for a frame (`Envelope.openAlloc`, from the
declared length) against the frame's size; `Lemmas/Envelope` gives the honest sender's envelope.

History: before the repair of D12 (`if l < 8 { return error }` in read()) the extracted bound
was 0 and the statement was false — `C16_frames_unguarded_crashes` keeps the witness
(an 8-byte header whose length field is 0).
-/
import ErgoVerif.Lemmas.Stream
import ErgoVerif.Model.StreamLink
import ErgoVerif.Lemmas.Envelope
namespace ErgoVerif.Props.C16Frames
open ErgoVerif.Stream

/-- for every byte stream and every segmentation the link reader never panics outside a recover scope -/
theorem C16_frames_no_crash (max : Nat) (chunks : List Bytes) :
    (readAll (linkCfg max) RState.init chunks).1.closed ≠ some .crash :=
  readAll_no_crash_from (linkCfg max) (by rw [linkCfg_minLen]; omega) chunks RState.init nofun

/-- … so it ends waiting for input or with an error that closes only this link -/
theorem C16_frames_outcome (max : Nat) (chunks : List Bytes) :
    let s := (readAll (linkCfg max) RState.init chunks).1
    s.closed = none ∨ s.closed = some .badLen ∨ s.closed = some .tooLong ∨ s.closed = some .tooLarge ∨
    s.closed = some .badMagic ∨ s.closed = some .badVersion := by
  intro s
  have h := C16_frames_no_crash max chunks
  show s.closed = none ∨ _
  generalize s.closed = c at h ⊢
  cases c with
  | none => simp
  | some w => cases w <;> simp at h ⊢

/-- every frame handed to the decoding workers has a complete header, a truthful length field, the
    right magic/version and respects the size limit (whatever bytes arrive, however they are cut) -/
theorem C16_frames_wellformed (max : Nat) (hmax : max = 0 ∨ 8 ≤ max) (chunks : List Bytes) :
    ∀ f ∈ (readAll (linkCfg max) RState.init chunks).2,
      8 ≤ f.length ∧ lenField f = f.length ∧ serveCheck (linkCfg max) f = none ∧ (max > 0 → f.length ≤ max) := by
  intro f hf
  rw [readAll_eq_cutAll (linkCfg max) hmax] at hf
  exact linkCfg_minLen max ▸ cut_frames_ok (linkCfg max) _ chunks.flatten f hf

/-- a stream with an oversized length field is refused before its body is buffered -/
example : (readAll (linkCfg 100) RState.init [[78, 1, 0, 0, 1, 0, 0, 101]]).1.closed = some .tooLong := by decide

/-- a stream with a length field below the header size is refused (D12 repaired) -/
example : (readAll (linkCfg 0) RState.init [[78, 1, 0, 0], [0, 0, 0, 101]]).1.closed = some .badLen := by decide

/-- regression witness of D12: without the lower bound the same stream is an unrecovered panic -/
theorem C16_frames_unguarded_crashes :
    ∃ chunks, (readAll (unguardedCfg 0) RState.init chunks).1.closed = some .crash :=
  ⟨[[78, 1, 0, 0], [0, 0, 0, 101]], by decide⟩

/-- … and so does a length field of 5 (magic and version pass, `buf.B[6]` is out of range) -/
example : (readAll (unguardedCfg 0) RState.init [[78, 1, 0, 0, 0, 5, 0, 101]]).1.closed = some .crash := by decide

/-! ## allocation of the compressed receive case (listed finding C16/D27) -/
section Alloc
open ErgoVerif.Envelope ErgoVerif.Frame

/-- full statement: unpacking a compressed frame allocates memory in proportion to the frame -/
def C16_frames_alloc_full : Prop := ∀ f : List UInt8, openAlloc f ≤ allocBudget f.length

/-- refuted by the current code: a 13-byte frame (header, type Z, compression id, declared length
    0xFFFFFFFF) makes the receive case allocate 4 GiB before it looks at any data -/
theorem C16_frames_alloc_counterexample : ¬ C16_frames_alloc_full := by
  intro h
  have := h [78, 1, 0, 0, 0, 13, 0, 200, 100, 255, 255, 255, 255]
  revert this
  decide

/-- what does hold: at most 4 GiB per frame, and nothing for a frame without the 4 length bytes -/
theorem C16_frames_alloc_partial (f : List UInt8) :
    openAlloc f < 2 ^ 32 ∧ (f.length < 13 → openAlloc f = 0) := by
  fun_cases openAlloc f
  · exact ⟨by omega, fun _ => rfl⟩
  · exact ⟨by omega, fun _ => rfl⟩
  -- the `13` of the statement is `zSkipBytes + 4`, the second guard of `openAlloc`
  · refine ⟨Nat.lt_of_lt_of_le (beVal_lt _) (Nat.pow_le_pow_right (by omega) (?_ : _ ≤ 4)), fun h => absurd h ‹_›⟩
    simp only [List.length_take]; omega

/-- … and for an envelope built by an honest sender exactly the real unpacked size -/
theorem C16_frames_alloc_honest (cd : Codec) (t : Nat) (frame : List UInt8) (hl : frame.length < 2 ^ 32) :
    openAlloc (envelope cd t frame) = frame.length := by
  obtain ⟨h1, h2⟩ := envelope_guards cd t frame
  rw [openAlloc, if_neg h1, if_neg h2, envelope_declared]
  exact beVal_beBytes 4 _ (by simpa using hl)

end Alloc

end ErgoVerif.Props.C16Frames
