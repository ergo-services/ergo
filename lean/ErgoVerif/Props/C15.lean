import ErgoVerif.Lemmas.PermSafe
import ErgoVerif.Lemmas.HandshakeSec
import ErgoVerif.Model.CookieSel
import ErgoVerif.Generated.Acceptor
import ErgoVerif.Model.NodeAccept
/-!
# C15 — remote access control

Part 1 (this section): spawn / application-start permissions, flags, environment exposure
(Model/Perm.lean mirrors node/network.go EnableSpawn … DisableApplicationStart, getEnabledSpawn,
isEnabledApplicationStart; net/proto/connection.go RemoteSpawn / applicationStart / handleMessage).
Histories are lists with the newest operation first.
-/
namespace ErgoVerif.Props.C15
open ErgoVerif.Perm

/-- **Spawn permissions, all histories.** If, after ANY history of enable/disable operations (both
    tables interleaved, failing operations included), the lookup that `RouteSpawn` consults allows
    `peer` to spawn `name`, then the history contains a *successful* `EnableSpawn name … nodes` whose
    node list covers the peer (empty list = any node, or the peer is listed) and no later
    `DisableSpawn name …` covers the peer (empty list = whole entry, or the peer is listed). -/
theorem C15_perm_spawn_safe (ops : List Op) (name peer : Nat)
    (h : (getEnabledSpawn (after ops) name peer).1 = .ok) :
    ∃ post f ns older, ops = post ++ .enableSpawn name f ns :: older ∧ covers ns peer = true ∧
      (enableSpawn (after older) name f ns).2 = .ok ∧
      ∀ ns', Op.disableSpawn name ns' ∈ post → covers ns' peer = false := by
  obtain ⟨post, _, older, rfl, ⟨f, ns, rfl, hc, hok⟩, hD⟩ := spawnJustified_latest (spawn_safe h)
  exact ⟨post, f, ns, older, rfl, hc, hok, fun ns' hm => Bool.eq_false_iff.mpr fun hc' => hD _ hm ⟨ns', rfl, hc'⟩⟩

/-- **Application-start permissions, all histories** (the code after the D11 repair). -/
theorem C15_perm_app_safe (ops : List Op) (name peer : Nat)
    (h : isEnabledApp (after ops) name peer = .ok) :
    ∃ post ns older, ops = post ++ .enableApp name ns :: older ∧ covers ns peer = true ∧
      ∀ ns', Op.disableApp name ns' ∈ post → covers ns' peer = false := by
  obtain ⟨post, _, older, rfl, ⟨ns, rfl, hc⟩, hD⟩ := appJustified_latest (app_safe h)
  exact ⟨post, ns, older, rfl, hc, fun ns' hm => Bool.eq_false_iff.mpr fun hc' => hD _ hm ⟨ns', rfl, hc'⟩⟩

/-- the same statement for the code before the repair (`delete(enable.nodes, nn)`), kept as a
    regression statement: it is FALSE — D11 -/
def C15_perm_app_safe_prefix : Prop :=
  ∀ (ops : List Op) (name peer : Nat), isEnabledApp (afterOld ops) name peer = .ok →
    appJustified name peer ops = true

/-- D11 witness: enable the application for node 1 only, then disable node 1: the node map becomes
    empty, which the lookup reads as "any node" — node 2 (never enabled) may start the application. -/
theorem C15_perm_app_prefix_counterexample : ¬ C15_perm_app_safe_prefix := by
  intro h
  have := h [.disableApp 0 [1], .enableApp 0 [1]] 0 2 (by decide)
  revert this; decide

/-- the table is not vacuously closed: a successful enable covering the peer, as the newest
    operation, makes the lookup succeed and return that entry's factory -/
theorem C15_perm_enable_effective (older : List Op) (name f : Nat) (ns : List Nat) (peer : Nat)
    (hok : (enableSpawn (after older) name f ns).2 = .ok) (hc : covers ns peer = true) :
    getEnabledSpawn (after (.enableSpawn name f ns :: older)) name peer = (.ok, f) := by
  simp only [after, step, getEnabledSpawn, (enableSpawn_ok hok).1, upd_same]
  rw [covers_iff] at hc
  by_cases he : ns = []
  · subst he; simp [NodeMap.allows_nil]
  · have hemp : ns.isEmpty = false := List.isEmpty_eq_false_iff.mpr he
    simp [hemp, NodeMap.allows_setAll _ _ _ he, hc.resolve_left he]

/-- a disable covering the peer, as the newest operation, closes the lookup for that peer -/
theorem C15_perm_disable_effective (older : List Op) (name : Nat) (ns : List Nat) (peer : Nat)
    (hc : covers ns peer = true) :
    (getEnabledSpawn (after (.disableSpawn name ns :: older)) name peer).1 ≠ .ok ∧
    isEnabledApp (after (.disableApp name ns :: older)) name peer ≠ .ok := by
  constructor
  · intro h
    have := spawn_safe h
    simp [spawnJustified, hc] at this
  · intro h
    have := app_safe h
    simp [appJustified, hc] at this

/-- **End to end**: a remote spawn request is executed only if neither end's flags refuse it, the
    table justifies it, and exactly the environment chosen by the requester's exposure switch travels. -/
theorem C15_spawn_request (pf nf : Flags) (ops : List Op) (name req : Nat) (expose : Bool)
    (env : List Nat) (f : Nat) (sent : List Nat)
    (h : remoteSpawn pf nf (after ops) name req expose env = .spawned f sent) :
    refuses pf (·.spawn) = false ∧ refuses nf (·.spawn) = false ∧
    spawnJustified name req ops = true ∧ sent = sentEnv expose env := by
  revert h
  fun_cases remoteSpawn pf nf (after ops) name req expose env <;> intro h <;> cases h
  rename_i h1 h2 hg
  exact ⟨by simpa using h1, by simpa using h2, spawn_safe (by rw [allowedSpawn, hg]), rfl⟩

theorem C15_app_request (pf nf : Flags) (ops : List Op) (name req : Nat) (expose : Bool)
    (env : List Nat) (sent : List Nat)
    (h : remoteAppStart pf nf (after ops) name req expose env = .started sent) :
    refuses pf (·.appStart) = false ∧ refuses nf (·.appStart) = false ∧
    appJustified name req ops = true ∧ sent = sentEnv expose env := by
  revert h
  fun_cases remoteAppStart pf nf (after ops) name req expose env <;> intro h <;> cases h
  rename_i h1 h2 hg
  exact ⟨by simpa using h1, by simpa using h2, app_safe hg, rfl⟩

/-- flags that went through the defaulting rule of network.start / connect / startAcceptor have
    `Enable` set, so the guard is exactly "the feature bit is off" -/
theorem C15_flags_effective (given fallback : Flags) (hfb : fallback.enable = true) (bit : Flags → Bool) :
    refuses (effFlags given fallback) bit = !bit (effFlags given fallback) := by
  unfold refuses effFlags
  by_cases hg : given.enable = true <;> simp [hg, hfb]

/-- **Environment exposure**: the parent environment travels iff the requester switched exposure on -/
theorem C15_env_exposure (expose : Bool) (env : List Nat) :
    (expose = true → sentEnv expose env = env) ∧ (expose = false → sentEnv expose env = []) := by
  cases expose <;> simp [sentEnv]

theorem C15_env_sent_iff (expose : Bool) (env : List Nat) (hne : env ≠ []) :
    sentEnv expose env = env ↔ expose = true := by
  cases expose <;> simp [sentEnv, Ne.symm hne]

/- non-vacuity: the hypotheses are satisfiable, and the conclusion is not trivially true -/
example : (getEnabledSpawn (after [.enableSpawn 0 1 [2]]) 0 2).1 = .ok := by decide
example : (getEnabledSpawn (after [.disableSpawn 0 [2], .enableSpawn 0 1 []]) 0 2).1 = .notAllowed := by decide
example : (getEnabledSpawn (after [.disableSpawn 0 [2], .enableSpawn 0 1 []]) 0 3).1 = .notAllowed := by decide
example : isEnabledApp (after [.disableApp 0 [1], .enableApp 0 [1]]) 0 2 = .notAllowed := by decide
example : isEnabledApp (afterOld [.disableApp 0 [1], .enableApp 0 [1]]) 0 2 = .ok := by decide
example : remoteSpawn defaultFlags defaultFlags (after [.enableSpawn 0 1 []]) 0 5 true [7] = .spawned 1 [7] := by decide
example : remoteSpawn defaultFlags ⟨true, false, true⟩ (after [.enableSpawn 0 1 []]) 0 5 true [7] = .droppedByReceiver := by decide

/-!
## Part 2 — cookie authentication (Model/Handshake.lean, Model/CookieSel.lean)

Symbolic model: strings are lists of colon-free atoms, SHA-256 is a free (injective) constructor, every
digest site comes from Generated/Hs.lean.  The adversary of this property is the *replay* adversary:
it knows everything that was on the wire in earlier sessions and everything the honest party sends in
the current one, can build strings and hashes from that, and does not know the cookie.  Relaying a
live session between two honest nodes (man in the middle) is outside this class and outside the
property.
-/
open ErgoVerif.Handshake ErgoVerif.CookieSel

/-- **Honest run.** Two honest nodes complete the main handshake iff they use the same cookie (and
    carry different names — the code refuses a peer with the node's own name). -/
theorem C15_honest (cI cA : Cfg) (sI sA idA : Atom) :
    (isOk (honest cI cA sI sA idA).resI = true ∧ isOk (honest cI cA sI sA idA).resA = true) ↔
    (cI.cookie = cA.cookie ∧ cI.info.name ≠ cA.info.name) := by
  rw [honest_eq]
  by_cases hc : cI.cookie = cA.cookie
  · by_cases hn : cI.info.name = cA.info.name
    · simp [isOk, hc, hn]
    · simp [isOk, hc, hn]
  · simp [isOk, hc]

/-- with different cookies the acceptor stops at the first digest and the initiator sees the
    connection closed: nobody completes, nothing but the first Hello was sent -/
theorem C15_honest_mismatch (cI cA : Cfg) (sI sA idA : Atom) (hc : cI.cookie ≠ cA.cookie) :
    (honest cI cA sI sA idA).resA = .error .digest ∧ (honest cI cA sI sA idA).resI = .error .read := by
  simp [honest_eq, hc]

/-- **Agreement.** After a successful run each end holds the other's name, creation, flags, maximum
    message size and version exactly as the other configured them, its own flags and size limit, and
    both hold the same connection id. -/
theorem C15_agreement (cI cA : Cfg) (sI sA idA : Atom) (rI rA : Result)
    (hI : (honest cI cA sI sA idA).resI = .ok rI) (hA : (honest cI cA sI sA idA).resA = .ok rA) :
    rI.peer = cA.info.name ∧ rA.peer = cI.info.name ∧
    rI.peerCreation = cA.info.creation ∧ rA.peerCreation = cI.info.creation ∧
    rI.peerFlags = cA.info.flags ∧ rA.peerFlags = cI.info.flags ∧
    rI.nodeFlags = cI.info.flags ∧ rA.nodeFlags = cA.info.flags ∧
    rI.peerMaxSize = cA.info.maxSize ∧ rA.peerMaxSize = cI.info.maxSize ∧
    rI.nodeMaxSize = cI.info.maxSize ∧ rA.nodeMaxSize = cA.info.maxSize ∧
    rI.peerVersion = cA.info.version ∧ rA.peerVersion = cI.info.version ∧
    rI.connId = rA.connId ∧ rI.connId = [idA] := by
  obtain ⟨hc, hn⟩ := (C15_honest cI cA sI sA idA).mp (by simp [hI, hA, isOk])
  simp only [honest_eq, ne_eq, hc, not_true_eq_false, hn, if_false, Except.ok.injEq] at hI hA
  subst hI hA
  simp [resultOf]

/-- the five messages are all there is: delivering further changes nothing -/
theorem C15_rounds_stable (cI cA : Cfg) (sI sA idA : Atom) :
    deliver cI cA sI sA idA 6 = deliver cI cA sI sA idA 5 := by
  by_cases hc : cI.cookie = cA.cookie
  · by_cases hn : cI.info.name = cA.info.name
    · simp [deliver, round, start, accept, hc, hn]
    · have hn' : ¬ cA.info.name = cI.info.name := fun h => hn h.symm
      simp [deliver, round, start, accept, hc, hn, hn']
  · simp [deliver, round, start, accept, hc]

/-- **Replay adversary against an acceptor, general form.** `K` is anything the adversary knows that
    does not contain the cookie and in which the acceptor's fresh salt `s` does not occur; it then also
    learns everything the acceptor sends.  Whatever first Hello it presents (replayed, re-split at
    colons, made up) and whatever follows, `Accept` does not complete the main handshake. -/
theorem C15_acceptor_not_fooled (cfg : Cfg) (c : Nat) (hcfg : cfg.cookie = .cookie c)
    (K : Atom → Prop) (adv : Nat → Prop) (s : Nat) (id : Atom)
    (hk : ¬ K (.cookie c)) (hfresh : ∀ t, K t → t.occurs s = false)
    (saltI digestI : Field) (rest : List Msg)
    (hder : ∀ info dg, rest.head? = some (.intro info dg) →
      DerivF (learn K ((accept cfg (.nonce s) id [.hello saltI digestI]).sent.flatMap Msg.atoms)) adv dg) :
    isOk (accept cfg (.nonce s) id (.hello saltI digestI :: rest)).res = false := by
  refine Bool.eq_false_iff.mpr fun hok => ?_
  obtain ⟨rfl, info, dg, rest2, rfl, rfl, _⟩ := accept_main_ok hok
  have h1 := hder info _ rfl
  rw [accept_first_sent, hcfg] at h1
  -- the digest the acceptor waits for, `H [s, cookie]`, is not among the two atoms of its own Hello
  exact fresh_digest_underivable hk hfresh (by simp [Msg.atoms]) (by simp) (by simp) (by simp [Msg.atoms]) h1

/-- **Replay adversary against an initiator, general form**: `Start` does not complete. -/
theorem C15_initiator_not_fooled (cfg : Cfg) (c : Nat) (hcfg : cfg.cookie = .cookie c)
    (K : Atom → Prop) (adv : Nat → Prop) (s : Nat)
    (hk : ¬ K (.cookie c)) (hfresh : ∀ t, K t → t.occurs s = false) (inbox : List Msg)
    (hder : ∀ salt2 d2, inbox.head? = some (.hello salt2 d2) →
      DerivF (learn K ((start cfg (.nonce s) []).sent.flatMap Msg.atoms)) adv d2) :
    isOk (start cfg (.nonce s) inbox).res = false := by
  refine Bool.eq_false_iff.mpr fun hok => ?_
  obtain ⟨salt2, d2, rest, rfl, rfl⟩ := start_ok hok
  have h1 := hder salt2 _ rfl
  rw [start_first_sent, hcfg] at h1
  refine fresh_digest_underivable hk hfresh (by simp [Msg.atoms]) (by simp) (by simp) (fun h => ?_) h1
  -- the reply digest covers the initiator's own digest, so it is not that digest
  simp only [List.flatMap_cons, List.flatMap_nil, Msg.atoms, List.cons_append, List.nil_append, List.append_nil,
    List.mem_cons, H_ne_nonce, List.not_mem_nil, or_false, false_or] at h
  exact H_ne_of_mem (by simp) h

/- `s ≠ 0`, `cid ≠ []` and `sj ≠ []` below are needed: the empty string is the atom `nonce 0` (Model/Handshake.lean),
   which every recorded session contains, and no Go string is the empty list of atoms. -/

/-- **Replay of recorded sessions, acceptor.** The adversary has recorded any number of earlier
    successful sessions (main handshakes and joins, any nodes, cookie `c`); the acceptor draws a salt
    that was not used in them.  No sequence of messages built from the recordings and the acceptor's
    own replies makes `Accept` complete the main handshake. -/
theorem C15_replay_acceptor (c : Nat) (ps : List Past) (hwf : ∀ p ∈ ps, p.wf c) (adv : Nat → Prop)
    (cfg : Cfg) (hcfg : cfg.cookie = .cookie c) (s : Nat) (id : Atom)
    (hs0 : s ≠ 0) (hs : ∀ p ∈ ps, s ∉ p.nonces)
    (saltI digestI : Field) (rest : List Msg)
    (hder : ∀ m ∈ rest, DerivM (learn (Known ps)
      ((accept cfg (.nonce s) id [.hello saltI digestI]).sent.flatMap Msg.atoms)) adv m) :
    isOk (accept cfg (.nonce s) id (.hello saltI digestI :: rest)).res = false :=
  C15_acceptor_not_fooled cfg c hcfg (Known ps) adv s id (known_no_cookie hwf)
    (known_fresh hwf hs0 hs) saltI digestI rest fun _ _ hh => hder _ (List.mem_of_mem_head? hh)

/-- **Replay of recorded sessions, initiator.** -/
theorem C15_replay_initiator (c : Nat) (ps : List Past) (hwf : ∀ p ∈ ps, p.wf c) (adv : Nat → Prop)
    (cfg : Cfg) (hcfg : cfg.cookie = .cookie c) (s : Nat)
    (hs0 : s ≠ 0) (hs : ∀ p ∈ ps, s ∉ p.nonces) (inbox : List Msg)
    (hder : ∀ m ∈ inbox, DerivM (learn (Known ps) ((start cfg (.nonce s) []).sent.flatMap Msg.atoms)) adv m) :
    isOk (start cfg (.nonce s) inbox).res = false :=
  C15_initiator_not_fooled cfg c hcfg (Known ps) adv s (known_no_cookie hwf)
    (known_fresh hwf hs0 hs) inbox fun _ _ hh => (hder _ (List.mem_of_mem_head? hh)).2

/-- **Replay of recorded sessions, Join initiator.** A node adding a link to its connection (id `idn`)
    with a fresh salt cannot be answered by a peer that only knows recorded traffic: `Join` fails. -/
theorem C15_replay_join_initiator (c : Nat) (ps : List Past) (hwf : ∀ p ∈ ps, p.wf c) (adv : Nat → Prop)
    (cfg : Cfg) (hcfg : cfg.cookie = .cookie c) (s idn : Nat)
    (hs0 : s ≠ 0) (hs : ∀ p ∈ ps, s ∉ p.nonces) (inbox : List Msg)
    (hder : ∀ m ∈ inbox, DerivM (learn (Known ps)
      ((join cfg (.nonce s) [.nonce idn] []).sent.flatMap Msg.atoms)) adv m) :
    isOk (join cfg (.nonce s) [.nonce idn] inbox).res = false :=
  join_initiator_not_fooled cfg c hcfg (Known ps) adv s idn (known_no_cookie hwf)
    (known_fresh hwf hs0 hs) inbox fun _ _ _ hh => (hder _ (List.mem_of_mem_head? hh)).2

/-- **Join, full statement** (what the property asks): a peer that only knows recorded traffic cannot
    make an acceptor accept a Join. -/
def C15_join_full : Prop :=
  ∀ (c : Nat) (ps : List Past), (∀ p ∈ ps, p.wf c) → ∀ (adv : Nat → Prop) (cfg : Cfg), cfg.cookie = .cookie c →
    ∀ (s id : Atom) (node : Nat) (cid sj dj : Field), cid ≠ [] → sj ≠ [] →
      DerivM (Known ps) adv (.join node cid sj dj) →
      isOk (accept cfg s id [.join node cid sj dj]).res = false

def wA : Cfg := { info := ⟨2, 200, 1, 0, 1⟩, cookie := .cookie 1 }
def wB : Cfg := { info := ⟨3, 300, 1, 0, 1⟩, cookie := .cookie 1 }

/-- D24: the acceptor contributes no nonce to the Join check, so the Join message recorded from an
    honest session (node 3 joining connection id 7 with salt 5) is accepted again, verbatim. -/
theorem C15_join_counterexample : ¬ C15_join_full := by
  intro h
  have hp : Past.join wB wA 5 7 ∈ [Past.join wB wA 5 7] := List.mem_singleton.mpr rfl
  have hwf : ∀ p ∈ [Past.join wB wA 5 7], p.wf 1 := fun p hp => List.mem_singleton.mp hp ▸ ⟨rfl, rfl⟩
  have := h 1 _ hwf (fun _ => False) wA rfl (.nonce 9) (.nonce 10) 3
    [.nonce 7] [.nonce 5] [H [.nonce 7, .nonce 5, .cookie 1]] (by simp) (by simp)
    ⟨.of_recorded hp _ (by decide), .of_recorded hp _ (by decide), .of_recorded hp _ (by decide)⟩
  rw [accept_join, if_pos (by rfl)] at this
  cases this

/-- D24, type flaw: no Join needs to have been recorded.  From ONE recorded main handshake (initiator
    salt 5, acceptor salt 6) the acceptor's Hello digest `H(6:H(5:c):c)` is a valid Join digest for
    id = "6", salt = `H(5:c)` — and the node name in a Join is not covered by any digest, so the
    adversary is accepted under a name of its choice (here 99). -/
theorem C15_join_typeflaw :
    let ps := [Past.main wB wA 5 6 7]
    (∀ p ∈ ps, p.wf 1) ∧
    DerivM (Known ps) (fun _ => False)
      (.join 99 [.nonce 6] [H [.nonce 5, .cookie 1]] [H [.nonce 6, H [.nonce 5, .cookie 1], .cookie 1]]) ∧
    (accept wA (.nonce 9) (.nonce 10)
      [.join 99 [.nonce 6] [H [.nonce 5, .cookie 1]] [H [.nonce 6, H [.nonce 5, .cookie 1], .cookie 1]]]).res =
      .ok ⟨[.nonce 6], 99, 0, 0, 0, 0, 0, 0⟩ := by
  intro ps
  have hp : Past.main wB wA 5 6 7 ∈ ps := List.mem_singleton.mpr rfl
  have hwf : ∀ p ∈ ps, p.wf 1 := fun p hp => List.mem_singleton.mp hp ▸ ⟨rfl, rfl, by decide⟩
  refine ⟨hwf, ⟨.of_recorded hp _ (by decide), .of_recorded hp _ (by decide), .of_recorded hp _ (by decide)⟩, ?_⟩
  rw [accept_join, if_pos (by rfl)]

/-- **Join, strongest true statement.** A Join accepted from the replay adversary is never forged: its
    (id, salt) pair is that of a recorded Join, or the (acceptor salt, initiator digest) pair of a
    recorded main handshake (the type flaw above).  In particular the connection id it names was the
    id of a recorded connection or a recorded salt; what the node then does with it is
    `C15_join_node_level`. -/
theorem C15_join_partial (c : Nat) (ps : List Past) (hwf : ∀ p ∈ ps, p.wf c) (adv : Nat → Prop)
    (cfg : Cfg) (hcfg : cfg.cookie = .cookie c) (s id : Atom) (node : Nat) (cid sj dj : Field)
    (hcid : cid ≠ []) (hsj : sj ≠ [])
    (hder : DerivM (Known ps) adv (.join node cid sj dj))
    (hok : isOk (accept cfg s id [.join node cid sj dj]).res = true) :
    (∃ cJ cA sJ idn, Past.join cJ cA sJ idn ∈ ps ∧ cid = [.nonce idn] ∧ sj = [.nonce sJ]) ∨
    (∃ cI cA sI sA idA, Past.main cI cA sI sA idA ∈ ps ∧ cid = [.nonce sA] ∧ sj = [H [.nonce sI, .cookie c]]) := by
  rw [accept_join_ok_iff, hcfg] at hok
  subst hok
  -- the digest is over the cookie, so it was on the wire in a recorded session: match it against each recorded hash
  obtain ⟨p, hp, hm⟩ := hash_cookie_known (known_no_cookie hwf) (by simp)
    (hder.2.2 _ (List.mem_singleton.mpr rfl))
  cases p with
  | main cI cA sI sA idA =>
    rw [main_atoms (hwf _ hp)] at hm
    simp only [List.mem_cons, H_ne_nonce, H_inj, List.not_mem_nil, or_false, false_or] at hm
    rcases hm with h | h | h <;> obtain ⟨x, y, h1, h2, h⟩ := two_singletons hcid hsj h (by simp) <;> cases h
    exact Or.inr ⟨cI, cA, sI, sA, idA, hp, h1, h2⟩
  | join cJ cA sJ idn =>
    rw [join_atoms (hwf _ hp)] at hm
    simp only [List.mem_cons, H_ne_nonce, H_inj, List.not_mem_nil, or_false, false_or] at hm
    rcases hm with h | h <;> obtain ⟨x, y, h1, h2, h⟩ := two_singletons hcid hsj h (by simp) <;> cases h
    exact Or.inl ⟨cJ, cA, sJ, idn, hp, h1, h2⟩

/-- **Join at node level.** What the replay adversary gains on a live node (NodeAccept mirrors
    network.accept / connection.Join / enp.NewConnection): a Join accepted by the handshake never
    registers a new connection (the result carries creation 0), and it is joined to a live connection
    only if that connection's id is the id of a RECORDED Join or a recorded acceptor salt and the
    adversary claims exactly that connection's peer name.  With connection ids distinct from salts
    (both are fresh random strings) only the verbatim replay into the still-living connection remains:
    this is finding D24; the type flaw D24b stops here. -/
theorem C15_join_node_level (c : Nat) (ps : List Past) (hwf : ∀ p ∈ ps, p.wf c) (adv : Nat → Prop)
    (cfg : Cfg) (hcfg : cfg.cookie = .cookie c) (s id : Atom) (node : Nat) (cid sj dj : Field)
    (hcid : cid ≠ []) (hsj : sj ≠ [])
    (hder : DerivM (Known ps) adv (.join node cid sj dj)) (tbl : NodeAccept.Table) :
    (∀ peer, NodeAccept.acceptLink tbl cfg s id [.join node cid sj dj] ≠ .registered peer) ∧
    (∀ peer, NodeAccept.acceptLink tbl cfg s id [.join node cid sj dj] = .joined peer →
      peer = node ∧ tbl node = some cid ∧
      ((∃ cJ cA sJ idn, Past.join cJ cA sJ idn ∈ ps ∧ cid = [.nonce idn]) ∨
       (∃ cI cA sI sA idA, Past.main cI cA sI sA idA ∈ ps ∧ cid = [.nonce sA]))) := by
  rw [NodeAccept.acceptLink, accept_join]
  by_cases hdj : dj = [H (cid ++ sj ++ [cfg.cookie])]
  · simp only [if_pos hdj]
    -- the result of an accepted Join carries the claimed name and id, and creation 0.  Name 0; a live connection
    -- under that name with this id, with another; none and creation 0, none and a creation (not here)
    fun_cases NodeAccept.accepted tbl ⟨cid, node, 0, 0, 0, 0, 0, 0⟩
    · exact ⟨nofun, nofun⟩
    · refine ⟨nofun, fun peer h => ⟨by cases h; rfl, ‹_›, ?_⟩⟩
      rcases C15_join_partial c ps hwf adv cfg hcfg s id node cid sj dj hcid hsj hder (accept_join_ok_iff.mpr hdj) with
        ⟨cJ, cA, sJ, idn, hp, h1, _⟩ | ⟨cI, cA, sI, sA, idA, hp, h1, _⟩
      · exact Or.inl ⟨cJ, cA, sJ, idn, hp, h1⟩
      · exact Or.inr ⟨cI, cA, sI, sA, idA, hp, h1⟩
    · exact ⟨nofun, nofun⟩
    · exact ⟨nofun, nofun⟩
    · exact absurd rfl ‹_›
  · simp only [if_neg hdj]
    exact ⟨nofun, nofun⟩

/-- a completed MAIN handshake registers a connection under the name the peer introduced itself with
    (or is dropped when a connection under that name already exists: the fresh id cannot match); the
    dialling side keeps the connection only if that name is the one it dialled -/
theorem C15_main_node_level (cI cA : Cfg) (sI sA idA : Atom) (rI rA : Result) (tbl : NodeAccept.Table)
    (hI : (honest cI cA sI sA idA).resI = .ok rI) (hA : (honest cI cA sI sA idA).resA = .ok rA)
    (hname : cI.info.name ≠ 0) (hcr : cI.info.creation ≠ 0) (hnew : tbl cI.info.name = none) (wanted : Nat) :
    NodeAccept.accepted tbl rA = .registered cI.info.name ∧
    (NodeAccept.connected wanted rI = true ↔ wanted = cA.info.name) := by
  obtain ⟨h1, h2, _, h4, _⟩ := C15_agreement cI cA sI sA idA rI rA hI hA
  constructor
  · simp [NodeAccept.accepted, h2, hname, hnew, h4, hcr]
  · simp only [NodeAccept.connected, h1, beq_iff_eq]
    exact eq_comm

/-- an honest Join with the right cookie is accepted, one with another cookie is refused (non-vacuity
    of the Join model in both directions) -/
theorem C15_join_honest (cJ cA : Cfg) (sJ sA idA : Atom) (id : Field) :
    isOk (honestJoin cJ cA sJ sA idA id).resA = true ↔ cJ.cookie = cA.cookie := by
  simp only [honestJoin, join_first_sent, accept_join_ok_iff]
  simp

/-- **Effective cookie.** The acceptor authenticates with its own cookie when one is set, else with the
    node's; the dialling side with the route's cookie when one is set, else with the node's. -/
theorem C15_effective_cookie (node opt : Nat) (hn : node ≠ 0) :
    acceptorCookie node opt = (if opt = 0 then node else opt) ∧
    routeCookie node opt = (if opt = 0 then node else opt) := by
  unfold acceptorCookie acceptCookie acceptorField routeCookie
  by_cases h : opt = 0 <;> simp [h, hn]

/-- the code before the D10 repair used the node cookie for every acceptor (regression statement) -/
theorem C15_effective_cookie_prefix (node opt : Nat) : acceptorCookieOld node opt = node := by
  unfold acceptorCookieOld acceptCookie acceptorFieldOld
  by_cases h : opt = 0 <;> simp [h]

/-- **Acceptor cookie over time, full statement**: after any sequence of `Acceptor.SetCookie` calls the
    next handshake uses the cookie set last. -/
def C15_acceptor_setcookie_full (pc : Bool) : Prop :=
  ∀ (node opt : Nat) (sets : List Nat), node ≠ 0 →
    handshakeCookie pc node (sets.foldl setCookie (startAcc node opt)) =
      wantedCookie node (sets.foldl setCookie (startAcc node opt))

/-- **Acceptor cookie over time, for the code as it is**: the accept loop reads the acceptor's options for every
    incoming connection (regenerated fact), so `Cookie()` reports exactly the cookie peers are checked against. -/
theorem C15_acceptor_setcookie : C15_acceptor_setcookie_full ErgoVerif.Gen.Acceptor.optionsReadPerConnection := by
  have h : ErgoVerif.Gen.Acceptor.optionsReadPerConnection = true := by decide
  rw [h]
  intro node opt sets _
  simp [handshakeCookie, wantedCookie]

/-- the code before the repair of D10b: the accept loop kept the options it was started with (regression statement) -/
theorem C15_acceptor_setcookie_before_fix : ¬ C15_acceptor_setcookie_full false := by
  intro h
  have := h 1 0 [2] (by decide)
  revert this; decide

/-- **Connection between two nodes**: node X dials with route cookie option `r`, node Y's acceptor was
    started with cookie option `a`; they get connected iff the effective cookies coincide (names differ). -/
theorem C15_connect (iX iY : Info) (nodeX nodeY r a : Nat) (hX : nodeX ≠ 0) (hY : nodeY ≠ 0)
    (hn : iX.name ≠ iY.name) (sI sA idA : Atom) :
    let cI : Cfg := { info := iX, cookie := .cookie (routeCookie nodeX r) }
    let cA : Cfg := { info := iY, cookie := .cookie (acceptorCookie nodeY a) }
    (isOk (honest cI cA sI sA idA).resI = true ∧ isOk (honest cI cA sI sA idA).resA = true) ↔
    (if r = 0 then nodeX else r) = (if a = 0 then nodeY else a) := by
  intro cI cA
  rw [C15_honest]
  have h1 := (C15_effective_cookie nodeX r hX).2
  have h2 := (C15_effective_cookie nodeY a hY).1
  simp [cI, cA, h1, h2, hn]

/- non-vacuity of the replay theorems' hypotheses: a recorded session exists, a fresh salt exists, and the
   adversary can indeed derive (and present) recorded messages -/
example : (Past.main wB wA 5 6 7).wf 1 := ⟨rfl, rfl, by decide⟩
example : ∀ p ∈ [Past.main wB wA 5 6 7], (11 : Nat) ∉ p.nonces := by
  intro p hp; simp only [List.mem_singleton] at hp; subst hp; decide
example : isOk (honest wB wA (.nonce 5) (.nonce 6) (.nonce 7)).resA = true := by decide
example : isOk (accept wA (.nonce 11) (.nonce 12)
    [.hello [.nonce 5] [H [.nonce 5, .cookie 1]], .intro wB.info [H [.nonce 6, .cookie 1]], .accept emptyF 0 emptyF]).res = false := by
  decide

end ErgoVerif.Props.C15
