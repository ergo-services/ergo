import ErgoVerif.Lemmas.HsFrame
/-!
# C16 (handshake part) — the handshake message reader on hostile input

Model/HsReader.lean mirrors net/handshake/handshake.go `readMessage`, with the connection as the
list of results of the successive `conn.Read` calls, Go's index/slice expressions as partial
operations, and all constants taken from Generated/Hs.lean.  The statements quantify over EVERY
initial chunk and EVERY sequence of reads (arbitrary bytes, arbitrary segmentation, a connection
that fails at any point).  What `edf.Decode` does with the payload is the EDF part of C16.
-/
namespace ErgoVerif.Props.C16Handshake
open ErgoVerif.HsReader ErgoVerif.Generated

/-- **No panic**: whatever bytes arrive, in whatever pieces, no index or slice expression of the
    reader is evaluated out of range. -/
theorem C16_reader_no_panic (chunk : Bytes) (conn : List Bytes) :
    (readMessage chunk conn).res ≠ .panic := by
  rw [readMessage, loop_eq_run]
  exact run_no_panic (Nat.le_refl _)

/-- **Bounded buffer**: the accumulated chunk never grows beyond the initial chunk (the tail of the
    previous message, itself bounded by this theorem) or header + 65535 + one read buffer — whatever
    the length field claims and however much the peer sends. -/
theorem C16_reader_bounded (chunk : Bytes) (conn : List Bytes) :
    (readMessage chunk conn).peak ≤ max chunk.length (Hs.needBase + Hs.maxLen + Hs.readBuf) := by
  rw [readMessage, loop_eq_run]
  exact run_peak (Nat.le_max_right _ _) (Nat.le_refl _) (by decide) (Nat.le_max_left _ _)

/-- the concrete numbers of the current source: at most 69 637 bytes are ever buffered -/
theorem C16_reader_bound_value : Hs.needBase + Hs.maxLen + Hs.readBuf = 69637 := by decide

/-- **Framing**: a successful read hands `edf.Decode` exactly the accumulated bytes after the header,
    the header carries the right magic and version, the length field is within the cap and the
    message is complete; and the reader stopped reading as soon as that was the case. -/
theorem C16_reader_ok (chunk : Bytes) (conn : List Bytes) (p : Bytes)
    (h : (readMessage chunk conn).res = .ok p) :
    ∃ k, k ≤ conn.length ∧ header (acc chunk conn k) = .done p ∧ (readMessage chunk conn).reads = k := by
  rw [readMessage, loop_eq_run] at h ⊢
  simpa using run_ok (Nat.le_refl _) h

/-- what `.done` means -/
theorem C16_header_done (c : Bytes) (p : Bytes) (h : header c = .done p) :
    c[Hs.magicOff]? = some (UInt8.ofNat Hs.handshakeMagic) ∧
    c[Hs.versionOff]? = some (UInt8.ofNat Hs.handshakeVersion) ∧
    p = c.drop Hs.payloadOff ∧
    ∃ l, be32 c Hs.lenLo Hs.lenHi = some l ∧ l ≤ Hs.maxLen ∧ Hs.needBase + l ≤ c.length := by
  revert h
  -- the one branch of `header` that ends in `.done` has passed each of these tests
  fun_cases header c <;> intro h <;> cases h
  rename_i m hm hmagic v hv hver l hl hmax hlen _
  rw [← Decidable.not_not.mp hmagic, ← Decidable.not_not.mp hver]
  exact ⟨by simpa [idx] using hm, by simpa [idx] using hv, rfl, l, hl, Nat.le_of_not_lt hmax, Nat.le_of_not_lt hlen⟩

/-- **No unbounded wait in reads**: if every `Read` returns at least one byte, at most
    header + 65535 + 1 reads are made (the time they take is the subject of `C16_reader_time` below). -/
theorem C16_reader_reads (chunk : Bytes) (conn : List Bytes) (hne : ∀ r ∈ conn, r ≠ []) :
    (readMessage chunk conn).reads ≤ Hs.needBase + Hs.maxLen + 1 := by
  rw [readMessage, loop_eq_run]
  have := run_reads (chunk := chunk) (peak := chunk.length) (reads := 0) hne (Nat.le_refl _) (by decide)
  simp only [maxMsg] at this
  omega

/-- **Writer/reader round trip**: a frame as `writeMessage` builds it (payload of at most 65535 bytes),
    delivered in ANY segmentation — part of it possibly already in the initial chunk — is read back as
    exactly that payload. -/
theorem C16_reader_roundtrip (p chunk : Bytes) (conn : List Bytes) (hp : p.length ≤ Hs.maxLen)
    (hsegs : ∀ r ∈ conn, r ≠ [] ∧ r.length ≤ Hs.readBuf) (hall : chunk ++ conn.flatten = frame p) :
    (readMessage chunk conn).res = .ok p := by
  rw [readMessage, loop_eq_run]
  exact run_roundtrip hp (fun r hr => (hsegs r hr).2) hall (Nat.le_refl _) (Nat.le_add_right _ _)

/-- **Time, full statement**: a call with read timeout `t` is over within `t`, whatever the peer does. -/
def C16_reader_time_full (pm : Bool) : Prop :=
  ∀ (t : Nat) (chunk : Bytes) (conn : List Bytes) (delays : List Nat), (∀ r ∈ conn, r ≠ []) →
    elapsed pm t delays (readMessage chunk conn).reads ≤ t

/-- **Time, for the code as it is**: the read deadline is armed once per message, so reading one handshake message
    takes at most the timeout however the peer spaces its bytes. -/
theorem C16_reader_time : C16_reader_time_full Hs.deadlinePerMessage := by
  have h : Hs.deadlinePerMessage = true := by decide
  rw [h]
  intro t chunk conn delays _
  unfold elapsed
  simp only [if_true]
  exact Nat.min_le_right _ _

/-- the code before the repair (listed finding D26-trickle, now fixed): the deadline was re-armed before every read, so
    a peer that sent one byte just before each deadline kept the reader — and the node's serial accept loop that called
    it — busy. Two one-byte reads, each arriving after 1000 of a 1000 ms timeout, already take 2000. Kept as a regression
    statement. -/
theorem C16_reader_time_before_fix : ¬ C16_reader_time_full false := by
  intro h
  have := h 1000 [] [[87], [1]] [1000, 1000] (by decide)
  revert this; decide

/-- what held for the per-read deadline: the time was bounded only by the number of reads times the timeout, i.e. by
    (header + 65535 + 1) timeouts — about 18 hours for the 1 s used by Start/Accept/Join. -/
theorem C16_reader_time_per_read (t : Nat) (chunk : Bytes) (conn : List Bytes) (delays : List Nat)
    (hne : ∀ r ∈ conn, r ≠ []) :
    elapsed false t delays (readMessage chunk conn).reads ≤ (Hs.needBase + Hs.maxLen + 1) * t := by
  have hr := C16_reader_reads chunk conn hne
  have hsum : ∀ (l : List Nat), (l.map (fun d => min d t)).sum ≤ l.length * t := by
    intro l
    induction l with
    | nil => simp
    | cons a l ih =>
      simp only [List.map_cons, List.sum_cons, List.length_cons]
      have : min a t ≤ t := Nat.min_le_right _ _
      rw [Nat.add_mul]; omega
  unfold elapsed
  simp only [Bool.false_eq_true, if_false]
  refine Nat.le_trans (hsum _) (Nat.mul_le_mul_right _ ?_)
  rw [List.length_take]
  exact Nat.le_trans (Nat.min_le_left _ _) hr

/- non-vacuity: a well-formed message in two pieces is read; an inflated length field is refused
   before anything is buffered for it; a truncated message ends in the read error; a wrong magic byte is refused;
   a message that is complete in the initial chunk is returned without a read -/
example : (readMessage [] [[87, 1, 0, 0], [0, 2, 9, 8]]).res = .ok [9, 8] := by decide
example : (readMessage [] [[87, 1, 0, 1, 0, 0]]).res = .errTooLong := by decide
example : (readMessage [] [[87, 1, 0, 0, 255, 255, 1]]).res = .errRead := by decide
example : (readMessage [] [[86, 1, 0, 0, 0, 0]]).res = .errMagic := by decide
example : (readMessage [87, 1, 0, 0, 0, 1, 5, 6] []).res = .ok [5, 6] := by decide

end ErgoVerif.Props.C16Handshake
