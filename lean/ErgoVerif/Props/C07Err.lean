import ErgoVerif.Props.C07
import ErgoVerif.Generated.WaitResp
/-!
# C07 — error responses are correlated like value responses

A reply reaches the caller through `RouteSendResponse` (a value) or `RouteSendResponseError` (an error made by the
callee, or a delivery error of an important request reported by the peer node); both sit in the same channel.
`stepE rf err` is `Call.step` with the order of the two tests in `waitResponse` as a parameter: `rf` (regenerated:
`Gen.WaitResp.refComparedFirst`) — the reference is compared before anything of the reply is looked at; otherwise an
error reply (`err rp`) is returned at once, whatever reference it carries.

* `C07_own_reply_err`           — for the code as it is, the statement of `C07_own_reply` for histories with error replies
* `C07_errors_first_returns_foreign` — the other order returns the late error reply of request 1 as the result of request 2
-/
namespace ErgoVerif.Props.C07Err
open ErgoVerif.Call ErgoVerif.Props.C07

def stepE (rf : Bool) (err : Reply → Bool) (s : St) : Op → St
  | .recv =>
    match s.waiting, s.chan with
    | some r, rp :: rest =>
      if !rf && err rp then
        { s with waiting := none, chan := rest, consumed := rp :: s.consumed, returned := (r, .value rp.val) :: s.returned }
      else step s .recv
    | _, _ => s
  | o => step s o

def runOpsE (rf : Bool) (err : Reply → Bool) (ops : List Op) : St := ops.foldl (stepE rf err) St.init

theorem stepE_true (err : Reply → Bool) (s : St) (o : Op) : stepE true err s o = step s o := by
  cases o <;> try rfl
  -- `recv`: `!true && err rp` is false, so either branch of the `match` is `step s .recv`
  simp only [stepE]
  split <;> simp [step, *]

theorem runOpsE_true (err : Reply → Bool) (ops : List Op) : runOpsE true err ops = runOps ops := by
  unfold runOpsE runOps
  have : stepE true err = step := by funext s o; exact stepE_true err s o
  rw [this]

theorem C07_own_reply_err_full (rf : Bool) (hrf : rf = true) (err : Reply → Bool) (ops : List Op) (r : Ref) (v : Nat)
    (h : (r, Outcome.value v) ∈ (runOpsE rf err ops).returned) :
    (⟨r, v⟩ : Reply) ∈ (runOpsE rf err ops).delivered ∧ r ∈ (runOpsE rf err ops).issued := by
  subst hrf
  rw [runOpsE_true] at h ⊢
  exact C07_own_reply ops r v h

theorem C07_code_shape_wait : Gen.WaitResp.refComparedFirst = true ∧ 0 < Gen.WaitResp.responseCases := by decide

/-- for the code as it is: whichever replies are errors, a call returns only a reply that carries its own reference -/
theorem C07_own_reply_err (err : Reply → Bool) (ops : List Op) (r : Ref) (v : Nat)
    (h : (r, Outcome.value v) ∈ (runOpsE Gen.WaitResp.refComparedFirst err ops).returned) :
    (⟨r, v⟩ : Reply) ∈ (runOpsE Gen.WaitResp.refComparedFirst err ops).delivered ∧
    r ∈ (runOpsE Gen.WaitResp.refComparedFirst err ops).issued :=
  C07_own_reply_err_full _ C07_code_shape_wait.1 err ops r v h

/-- errors first: request 1 times out, its late ERROR reply arrives while request 2 waits and is returned for it -/
theorem C07_errors_first_returns_foreign :
    (runOpsE false (fun _ => true) [.call 1, .timeout, .call 2, .deliver ⟨1, 100⟩, .recv]).returned
      = [(2, .value 100), (1, .timeout)] ∧
    (runOpsE true (fun _ => true) [.call 1, .timeout, .call 2, .deliver ⟨1, 100⟩, .recv, .deliver ⟨2, 200⟩, .recv]).returned
      = [(2, .value 200), (1, .timeout)] := by decide

end ErgoVerif.Props.C07Err
