/-
List facts several models' proofs share.  Kept apart from `Common.lean` on purpose: this module declares nothing
called `run` or `step`, so it can be imported under the property files that write `run …` for their own model's run.
Core Lean only.
-/
namespace ErgoVerif

theorem find?_of_nodup_key {α : Type} (f : α → Nat) (l : List α) (h : (l.map f).Nodup) (k : α) (hk : k ∈ l) :
    l.find? (fun x => f x = f k) = some k := by
  induction l with
  | nil => simp at hk
  | cons a l ih =>
    rw [List.map_cons, List.nodup_cons] at h
    rcases List.mem_cons.1 hk with e | hm
    · subst e; simp
    · have hne : f a ≠ f k := by
        intro e
        exact h.1 (e ▸ List.mem_map_of_mem hm)
      rw [List.find?_cons_of_neg (by simpa using hne)]
      exact ih h.2 hm

/-- `p` is whatever membership of `a` amounts to where the lemma is used (so that no `if` has to be rewritten there) -/
theorem count_map_of_inj {α β : Type} [DecidableEq α] [DecidableEq β] {l : List α} (hl : l.Nodup) (f : α → β) (a : α)
    (hinj : ∀ b ∈ l, f b = f a → b = a) {p : Prop} [Decidable p] (hp : a ∈ l ↔ p) :
    (l.map f).count (f a) = if p then 1 else 0 := by
  rw [ite_congr (propext hp.symm) (fun _ => rfl) (fun _ => rfl)]
  clear hp
  induction l with
  | nil => rfl
  | cons x l ih =>
    obtain ⟨hx, hl⟩ := List.nodup_cons.mp hl
    rw [List.map_cons, List.count_cons, ih hl (fun b hb => hinj b (List.mem_cons_of_mem _ hb))]
    by_cases e : x = a
    · subst e; simp [hx]
    · have : f x ≠ f a := fun h => e (hinj x List.mem_cons_self h)
      simp [this, Ne.symm e]

theorem nodup_snoc {α : Type} {l : List α} {a : α} : (l ++ [a]).Nodup ↔ a ∉ l ∧ l.Nodup := by
  rw [(List.perm_append_singleton a l).nodup_iff, List.nodup_cons]

theorem nodup_eraseDups {α} [DecidableEq α] : ∀ l : List α, l.eraseDups.Nodup
  | [] => by simp
  | a :: as => by
    rw [List.eraseDups_cons, List.nodup_cons]
    exact ⟨by simp [List.mem_eraseDups, List.mem_filter], nodup_eraseDups _⟩
termination_by l => l.length
decreasing_by exact Nat.lt_succ_of_le (List.length_filter_le _ _)

theorem foldl_erase_eq_filter {α} [DecidableEq α] (ks : List α) :
    ∀ (l : List α), l.Nodup → ks.foldl List.erase l = l.filter (fun x => decide (x ∉ ks)) := by
  induction ks with
  | nil => intro l _; exact (List.filter_eq_self.mpr (by simp)).symm
  | cons k ks ih =>
    intro l hl
    simp only [List.foldl_cons]
    rw [ih _ (hl.erase k), hl.erase_eq_filter, List.filter_filter]
    apply List.filter_congr
    intro x _
    by_cases hx : x = k <;> simp [hx]

end ErgoVerif
