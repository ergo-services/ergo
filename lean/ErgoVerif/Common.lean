/-
Shared by the models with a labelled partial step and by the finite races: the fold of a partial step function over
a list of labels (`run`) with `run_inv`, the finite sweep `inv_of_sweep`, and the walk along the `if`s of an
`Option`-valued step (`along_ifs`).  Core Lean only.
-/
namespace ErgoVerif

def run {σ : Type} {l : Type} (step : σ → l → Option σ) : σ → List l → Option σ
  | s, [] => some s
  | s, a :: as => match step s a with
    | none => none
    | some s' => run step s' as

theorem run_append {σ l : Type} (step : σ → l → Option σ) (s : σ) (xs ys : List l) :
    run step s (xs ++ ys) = (run step s xs).bind (fun s' => run step s' ys) := by
  induction xs generalizing s with
  | nil => simp [run]
  | cons a as ih =>
    simp only [List.cons_append, run]
    cases step s a with
    | none => simp
    | some s' => simpa using ih s'

theorem run_inv {σ l : Type} {step : σ → l → Option σ} {Inv : σ → Prop}
    (hstep : ∀ s a s', Inv s → step s a = some s' → Inv s')
    {s : σ} (h0 : Inv s) {ls : List l} {s' : σ} (hr : run step s ls = some s') : Inv s' := by
  induction ls generalizing s with
  | nil => simp [run] at hr; subst hr; exact h0
  | cons a as ih =>
    simp only [run] at hr
    cases hs : step s a with
    | none => simp [hs] at hr
    | some s1 =>
      simp [hs] at hr
      exact ih (hstep s a s1 h0 hs) hr

def runOut {σ ι ο : Type} (step : σ → ι → σ × ο) : σ → List ι → σ × List ο
  | s, [] => (s, [])
  | s, a :: as =>
    let r := step s a
    let rest := runOut step r.1 as
    (rest.1, r.2 :: rest.2)

/-! A property of every result of an `Option`-valued step, taken apart along the `if`s the step is written with:
the guards arrive as hypotheses and the leaves are about one record update each, so a sweep over the labels of a
step function needs neither the fields of the configuration nor a `split` of the hypothesis `step c l = some c'`. -/
section
variable {α : Type} {P : α → Prop}

theorem all_none : ∀ x, (none : Option α) = some x → P x := fun _ h => nomatch h

theorem all_some {a : α} (h : P a) : ∀ x, some a = some x → P x := fun _ e => Option.some.inj e ▸ h

theorem all_ite {p : Prop} [Decidable p] {a b : Option α} (ha : p → ∀ x, a = some x → P x)
    (hb : ¬p → ∀ x, b = some x → P x) : ∀ x, (if p then a else b) = some x → P x := by
  split
  · exact ha ‹_›
  · exact hb ‹_›

end

/-- `along_ifs tac` proves `∀ x, e = some x → P x` for `e` a tree of `if`s (and `match`es) with leaves `none` and
`some a`: the guards come in as hypotheses, and `tac` has to prove `P a` at every `some` leaf. `tac` is everything up
to the end of the line: in `along_ifs dsimp only [Inv]; grind` the `; grind` is part of it. -/
macro "along_ifs " tac:tacticSeq : tactic =>
  `(tactic| repeat' first | (apply all_ite <;> intro _) | exact all_none | (apply all_some; ($tac)) | split)

/-- `h` is a finite check, meant to be done by evaluation (`decide`) -/
theorem inv_of_sweep {σ l : Type} (states : List σ) (hs : ∀ c, c ∈ states) (labels : List l) (hl : ∀ a, a ∈ labels)
    (good : σ → Bool) (step : σ → l → Option σ)
    (h : (states.all fun c => !good c || labels.all fun a => (step c a).all good) = true)
    (c : σ) (a : l) (c' : σ) (hg : good c = true) (hstep : step c a = some c') : good c' = true := by
  have := List.all_eq_true.mp h c (hs c)
  rw [hg, Bool.not_true, Bool.false_or] at this
  have := List.all_eq_true.mp this a (hl a)
  rwa [hstep] at this

end ErgoVerif
