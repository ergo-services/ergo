import ErgoVerif.Common
/-
Name registration (node/node.go RegisterName 339-372, spawn with Register 1599-1605, UnregisterName,
unregisterProcess): any number of distinct, not yet registered processes race to claim ONE name.
Counting abstraction over the claimants' program points; `held` = the name is present in `n.names`.

  cas    : p.registered.CompareAndSwap(false,true)       (succeeds: every claimant is a distinct unregistered process)
  store  : n.names.LoadOrStore(name, p)  — exists ⇒ p.registered.Store(false); return ErrTaken
  assign : p.name = name; return nil
  unreg  : UnregisterName / unregisterProcess of the (fully registered) holder: names.Delete, registered=false
-/
namespace ErgoVerif.Registry

structure Cfg where
  held : Bool
  c0 : Nat      -- claimants before the CAS on their own registered flag
  c1 : Nat      -- after the CAS, before LoadOrStore
  c2 : Nat      -- won LoadOrStore, before `p.name = name`
  ok : Nat      -- claimants that returned nil and still hold the name
  okEver : Nat  -- claimants that ever returned nil
  err : Nat     -- claimants that returned ErrTaken
  released : Nat
  n : Nat        -- claimants created
deriving Repr, DecidableEq

inductive Lbl | newClaim | cas | store | assign | unreg
deriving DecidableEq, Repr

def init : Cfg := ⟨false, 0, 0, 0, 0, 0, 0, 0, 0⟩

def step (c : Cfg) : Lbl → Option Cfg
  | .newClaim => some { c with c0 := c.c0 + 1, n := c.n + 1 }
  | .cas => if c.c0 = 0 then none else some { c with c0 := c.c0 - 1, c1 := c.c1 + 1 }
  | .store => if c.c1 = 0 then none else
      if c.held then some { c with c1 := c.c1 - 1, err := c.err + 1 }
      else some { c with c1 := c.c1 - 1, c2 := c.c2 + 1, held := true }
  | .assign => if c.c2 = 0 then none else some { c with c2 := c.c2 - 1, ok := c.ok + 1, okEver := c.okEver + 1 }
  | .unreg => if c.ok = 0 then none else some { c with ok := c.ok - 1, held := false, released := c.released + 1 }

def Reach (c : Cfg) : Prop := ∃ ls, run step init ls = some c

def Inv (c : Cfg) : Prop :=
  (c.held = true → c.c2 + c.ok = 1) ∧ (c.held = false → c.c2 + c.ok = 0) ∧
  (c.err > 0 → c.held = true ∨ c.released > 0) ∧ c.okEver = c.ok + c.released ∧
  c.n = c.c0 + c.c1 + c.c2 + c.okEver + c.err

theorem inv_init : Inv init := by simp [Inv, init]

theorem step_inv (c : Cfg) (l : Lbl) (c' : Cfg) (h : Inv c) (hs : step c l = some c') : Inv c' := by
  revert c' hs
  -- `lia` neither looks inside `Inv c` (hence the `obtain`) nor splits on the Bool `c.held` (hence `cases hh`)
  obtain ⟨h1, h2, h3, h4, h5⟩ := h
  cases hh : c.held <;> cases l <;> dsimp only [step] <;> along_ifs (dsimp only [Inv]; lia)

theorem reach_inv {c : Cfg} (h : Reach c) : Inv c := by
  obtain ⟨ls, hr⟩ := h
  exact run_inv (Inv := Inv) step_inv inv_init hr

end ErgoVerif.Registry
